import GenjaxModel.Proofs.GfiGenSum
/-!
  C02, the `simulate` side: the probability, under the program's own distribution, that the trace
  agrees with a constraint map, outcome by outcome and as a sum over the completions of the
  constraints (`simD_agree_law`, `simD_completion_mass`, `simD_agree_sum`).

  On the traces of a `condOK` program agreement with a constraint is a function of the choice map
  (`Tr.agT_of_choices_cs`): both branch traces of every Cond node have choice maps of the same
  shape (`Tr.CondSame`), so the merged map is the visible branch's.
-/
namespace Genjax
open Smc Smc.FinDist

/-! ## traces whose Cond nodes hold two branch traces of the same shape -/

section CondSame
variable {R : Type}

mutual
  /-- at every Cond node of the trace the two branch traces have choice maps of the same shape -/
  def Tr.CondSame : Tr R → Prop
    | .leaf _ _ => True
    | .fn subs _ _ => subs.CondSame
    | .vec lanes => lanes.CondSame
    | .scan steps _ => steps.CondSame
    | .cond _ a b => a.CondSame ∧ b.CondSame ∧ a.choices.map CM.skel = b.choices.map CM.skel
  def TrL.CondSame : TrL R → Prop
    | .nil => True
    | .cons _ t rest => t.CondSame ∧ rest.CondSame
end

theorem TrL.condSame_ofList (ts : List (Tr R)) (h : ∀ t ∈ ts, t.CondSame) :
    (TrL.ofList ts).CondSame := by
  induction ts with
  | nil => trivial
  | cons t ts ih =>
    exact ⟨h t List.mem_cons_self, ih fun t' ht' => h t' (List.mem_cons_of_mem _ ht')⟩

theorem TrL.condSame_snoc : (l : TrL R) → (k : String) → (t : Tr R) →
    l.CondSame → t.CondSame → (l.snoc k t).CondSame
  | .nil, _, _, _, ht => ⟨ht, trivial⟩
  | .cons _ _ rest, k, t, hl, ht => ⟨hl.1, TrL.condSame_snoc rest k t hl.2 ht⟩

theorem condSame_of_condFree :
    (∀ t : Tr R, t.condFree = true → t.CondSame) ∧ ∀ l : TrL R, l.condFree = true → l.CondSame := by
  refine Tr.rec_both (fun _ _ _ => trivial) (fun _ _ _ ih h => ih h) (fun _ ih h => ih h)
    (fun _ _ ih h => ih h) (fun _ _ _ _ _ h => nomatch h) (fun _ => trivial) ?_
  intro k t rest iht ihl h
  simp only [TrL.condFree, Bool.and_eq_true] at h
  exact ⟨iht h.1, ihl h.2⟩

variable {K : Type} [Field K]

theorem agS_of_choices_cs_both :
    (∀ t : Tr R, t.CondSame → ∀ (x y : CM), t.choices = some y →
      t.agS (K := K) x = if y.agreeWith x then 1 else 0) ∧
    ∀ l : TrL R, l.CondSame →
      (∀ (xs ys : CML), l.choices = some ys →
        l.agreeAll (K := K) xs = if ys.agreeAllWith xs then 1 else 0) ∧
      ∀ (xs ys : CML), l.choices = some ys →
        l.agreePos (K := K) xs = if ys.agreePosWith xs then 1 else 0 := by
  refine Tr.rec_both ?_ ?_ ?_ ?_ ?_ ?_ ?_
  · intro v' s _ x y h
    cases h
    cases x <;> simp [Tr.agS, CM.agreeWith]
  · intro subs r s ih hc x y h
    obtain ⟨ys, hys, rfl⟩ := Option.map_eq_some_iff.mp h
    cases x with
    | node xs => exact (ih hc).1 xs ys hys
    | _ => rfl
  · intro lanes ih hc x y h
    obtain ⟨ys, hys, rfl⟩ := Option.map_eq_some_iff.mp h
    cases x with
    | lanes xs => exact (ih hc).2 xs ys hys
    | _ => rfl
  · intro steps c ih hc x y h
    obtain ⟨ys, hys, rfl⟩ := Option.map_eq_some_iff.mp h
    cases x with
    | lanes xs => exact (ih hc).2 xs ys hys
    | _ => rfl
  · intro c a b iha ihb hc x y h
    obtain ⟨hca, hcb, hsk⟩ := hc
    simp only [Tr.choices, Option.bind_eq_bind, Option.bind_eq_some_iff] at h
    obtain ⟨ya, hya, yb, hyb, hm⟩ := h
    rw [hya, hyb] at hsk
    rw [CM.mergeCheck_same c ya yb (Option.some.inj hsk)] at hm
    cases hm
    cases c with
    | true => exact iha hca x ya hya
    | false => exact ihb hcb x yb hyb
  · intro _
    refine ⟨fun xs ys h => ?_, fun xs ys h => ?_⟩
    · cases h
      simp [TrL.agreeAll, CML.agreeAllWith]
    · cases h
      cases xs <;> simp [TrL.agreePos, CML.agreePosWith]
  · intro k t rest iht ihl hc
    refine ⟨fun xs ys h => ?_, fun xs ys h => ?_⟩
    all_goals obtain ⟨c, r, hcx, hr, rfl⟩ := TrL.choices_cons.mp h
    · rw [TrL.agreeAll_cons, CML.agreeAllWith_cons, (ihl hc.2).1 xs r hr, ← agO_mul_ite,
        agT_eq_agO fun x => iht hc.1 x c hcx]
    · cases xs with
      | nil => simp [TrL.agreePos, CML.agreePosWith]
      | cons k' x xr =>
        simp only [TrL.agreePos, CML.agreePosWith]
        rw [iht hc.1 x c hcx, (ihl hc.2).2 xr r hr]
        exact ite_mul_ite_fd _ _

theorem Tr.agT_of_choices_cs (t : Tr R) (hc : t.CondSame) (ox : Option CM) (y : CM)
    (h : t.choices = some y) : t.agT (K := K) ox = agO ox y :=
  agT_eq_agO (fun x => agS_of_choices_cs_both.1 t hc x y h) ox

theorem TrL.agreeAll_of_choices_cs : (l : TrL R) → l.CondSame → ∀ (xs ys : CML),
      l.choices = some ys → l.agreeAll (K := K) xs = if ys.agreeAllWith xs then 1 else 0 :=
  fun l hc => (agS_of_choices_cs_both.2 l hc).1

theorem TrL.agreePos_of_choices_cs : (l : TrL R) → l.CondSame → ∀ (xs ys : CML),
      l.choices = some ys → l.agreePos (K := K) xs = if ys.agreePosWith xs then 1 else 0 :=
  fun l hc => (agS_of_choices_cs_both.2 l hc).2

end CondSame

section CondFree
variable {K : Type} [Field K] {R : Type}

theorem TrL.agreePos_of_choices : (l : TrL R) → l.condFree = true → ∀ (xs ys : CML),
      l.choices = some ys → l.agreePos (K := K) xs = if ys.agreePosWith xs then 1 else 0 :=
  fun l hc => TrL.agreePos_of_choices_cs l (condSame_of_condFree.2 l hc)

end CondFree

/-! ## the traces of a Cond-free program are Cond-free, those of a `condOK` program `CondSame` -/

section CF
variable {K : Type} [Field K] {R : Type} [Zero R] [Add R] [Neg R] (pd : PD K) (P : Prims R)

theorem simD_condFree_both :
    (∀ g : GF, g.condFree = true → ∀ (args : List Val) (t : Tr R),
      some t ∈ supp (g.simD pd P args) → t.condFree = true) ∧
    ∀ b : Body, b.condFree = true → ∀ (env : List Val) (subs : TrL R) (s : R)
      (r : TrL R × Val × R), subs.condFree = true →
      some r ∈ supp (b.simD pd P env subs s) → r.1.condFree = true := by
  refine GF.rec_both ?_ ?_ ?_ ?_ ?_ ?_ ?_
  · intro d _ args t h
    simp only [GF.simD, supp, List.map_map, List.mem_map, Function.comp, Option.some.injEq] at h
    obtain ⟨v, _, rfl⟩ := h
    rfl
  · intro body ih hg args t h
    simp only [GF.simD] at h
    obtain ⟨r, hr, rfl⟩ := mem_supp_bindO_pureO h
    exact ih hg _ _ _ r rfl hr
  · intro g axes n ih hg args t h
    simp only [GF.simD] at h
    obtain ⟨ts, hts, rfl⟩ := mem_supp_bindO_pureO h
    exact TrL.condFree_ofList _ (forLanesD_forall_fd _ (fun t => t.condFree = true)
      (fun i _ b hb => ih hg _ b hb) _ _ _ hts)
  · intro g n ih hg args t h
    simp only [GF.simD] at h
    obtain ⟨r, hr, rfl⟩ := mem_supp_bindO_pureO h
    refine TrL.condFree_ofList _ (forStepsD_forall_fd _ (fun t => t.condFree = true)
      (fun c i _ p hp => ?_) _ _ _ _ hr)
    obtain ⟨t, ht, rfl⟩ := mem_supp_bindO_pureO hp
    exact ih hg _ _ ht
  · intro _ _ _ _ hg
    cases hg
  · intro e _ env subs s r hs h
    cases mem_supp_pureO h
    exact hs
  · intro addr g es rest ihg ihr hb env subs s r hs h
    simp only [Body.condFree, Bool.and_eq_true] at hb
    simp only [Body.simD] at h
    split at h
    · cases mem_supp_failO h
    · obtain ⟨t, ht, h⟩ := mem_supp_bindO h
      exact ihr hb.2 _ _ _ r (TrL.condFree_snoc _ _ _ hs (ihg hb.1 _ _ ht)) h

theorem simD_condFree_body : (b : Body) → b.condFree = true → ∀ (env : List Val) (subs : TrL R)
      (s : R) (r : TrL R × Val × R), subs.condFree = true →
      some r ∈ supp (b.simD pd P env subs s) → r.1.condFree = true :=
  (simD_condFree_both pd P).2

end CF

section SimCS
variable {K : Type} [Field K] {R : Type} [AddCommGroup R] (pd : PD K) (P : Prims R)

theorem simD_condSame_both :
    (∀ g : GF, g.condOK = true → ∀ (args : List Val) (t : Tr R),
      some t ∈ supp (g.simD pd P args) → t.CondSame) ∧
    ∀ b : Body, b.condOK = true → ∀ (env : List Val) (subs : TrL R)
      (s : R) (r : TrL R × Val × R), subs.CondSame →
      some r ∈ supp (b.simD pd P env subs s) → r.1.CondSame := by
  refine GF.rec_both ?_ ?_ ?_ ?_ ?_ ?_ ?_
  · intro d _ args t h
    simp only [GF.simD, supp, List.map_map, List.mem_map, Function.comp, Option.some.injEq] at h
    obtain ⟨v, _, rfl⟩ := h
    trivial
  · intro body ih hg args t h
    simp only [GF.simD] at h
    obtain ⟨r, hr, rfl⟩ := mem_supp_bindO_pureO h
    exact ih hg args .nil 0 r trivial hr
  · intro g axes n ih hg args t h
    simp only [GF.simD] at h
    obtain ⟨ts, hts, rfl⟩ := mem_supp_bindO_pureO h
    exact TrL.condSame_ofList _ (forLanesD_forall_fd _ (fun t => t.CondSame)
      (fun i _ b hb => ih hg _ b hb) _ _ _ hts)
  · intro g n ih hg args t h
    simp only [GF.simD] at h
    obtain ⟨r, hr, rfl⟩ := mem_supp_bindO_pureO h
    refine TrL.condSame_ofList _ (forStepsD_forall_fd _ (fun t => t.CondSame)
      (fun c i _ p hp => ?_) _ _ _ _ hr)
    obtain ⟨t, ht, rfl⟩ := mem_supp_bindO_pureO hp
    exact ih hg _ _ ht
  · intro t f iht ihf hg args tr h
    obtain ⟨hct, hcf, hsk, -, -⟩ := GF.condOK_cond hg
    simp only [GF.simD] at h
    obtain ⟨a, ha, h⟩ := mem_supp_bindO h
    obtain ⟨b, hb, rfl⟩ := mem_supp_bindO_pureO h
    refine ⟨iht hct _ _ ha, ihf hcf _ _ hb, ?_⟩
    rw [simD_choices_skel pd P t _ a ha, simD_choices_skel pd P f _ b hb, hsk]
  · intro e _ env subs s r hs h
    cases mem_supp_pureO h
    exact hs
  · intro addr g es rest ihg ihr hb env subs s r hs h
    simp only [Body.condOK, Bool.and_eq_true] at hb
    simp only [Body.simD] at h
    split at h
    · cases mem_supp_failO h
    · obtain ⟨t, ht, h⟩ := mem_supp_bindO h
      exact ihr hb.2 _ _ _ r (TrL.condSame_snoc _ _ _ hs (ihg hb.1 _ _ ht)) h

theorem simD_condSame_gf : (g : GF) → g.condOK = true → ∀ (args : List Val) (t : Tr R),
      some t ∈ supp (g.simD pd P args) → t.CondSame :=
  (simD_condSame_both pd P).1

theorem simD_condSame_body : (b : Body) → b.condOK = true → ∀ (env : List Val) (subs : TrL R)
      (s : R) (r : TrL R × Val × R), subs.CondSame →
      some r ∈ supp (b.simD pd P env subs s) → r.1.CondSame :=
  (simD_condSame_both pd P).2

end SimCS

/-! ## the probability that `simulate` agrees with the constraints -/

section Main
variable {K : Type} [Field K] {R : Type} [AddCommGroup R]
variable (pd : PD K) (P : Prims R)

/-- `hl`: what the law of `simulate` needs at Cond nodes (`condFree_lawHyp_gf` /
    `lawHyp_of_condOK_gf`) -/
theorem simD_agree_law (hpd : pd.WF) (g : GF) (hl : g.LawHyp pd P) (hc : g.condOK = true)
    (ox : Option CM) (y : CM) (args : List Val) (ψ : Val → K) (hs : g.skel = some y.skel) :
    E (g.simD pd P args) (optK fun t => t.agT ox * choicesAre y ψ t)
      = agO ox y * massOf (g.assessP pd y args) ψ := by
  rw [← law_gf pd P hpd g hl args y ψ hs, ← E_optK_mul_left]
  refine E_optK_congr _ _ _ fun t ht => ?_
  simp only [choicesAre]
  split
  · rename_i hy
    rw [Tr.agT_of_choices_cs t (simD_condSame_gf pd P g hc args t ht) ox y hy]
  · simp only [mul_zero]

theorem simD_agree_pointwise_cond (hpd : pd.WF) (hnorm : pd.Normalised) (g : GF)
    (hc : g.condOK = true) (ox : Option CM) (y : CM) (args : List Val) (ψ : Val → K)
    (hs : g.skel = some y.skel) :
    E (g.simD pd P args) (optK fun t => t.agT ox * choicesAre y ψ t)
      = agO ox y * massOf (g.assessP pd y args) ψ :=
  simD_agree_law pd P hpd g (lawHyp_of_condOK_gf pd P hnorm g hc) hc ox y args ψ hs

theorem simD_completion_mass (hpd : pd.WF) (g : GF) (hl : g.LawHyp pd P) (hc : g.condOK = true)
    (x y : CM) (args : List Val) (hs : g.skel = some y.skel) :
    E (g.simD pd P args) (optK fun t => if t.choices = some y then t.agS x else 0)
      = if y.agreeWith x then pmassOf (g.assessP pd y args) else 0 := by
  have h := simD_agree_law pd P hpd g hl hc (some x) y args (fun _ => 1) hs
  rw [massOf_one] at h
  simp only [agO, ite_mul, one_mul, zero_mul] at h
  rw [← h]
  refine E_optK_congr _ _ _ fun t _ => ?_
  simp only [choicesAre, Tr.agT, mul_ite, mul_one, mul_zero]

/-- P_simulate(the trace agrees with `x`) = Σ over the completions `y ⊇ x` of `assessP y` -/
theorem simD_agree_sum (hpd : pd.WF) (g : GF) (hl : g.LawHyp pd P) (hc : g.condOK = true)
    (x : CM) (args : List Val) (ys : List CM) (hnd : ys.Nodup)
    (hcov : ∀ t, some t ∈ supp (g.simD pd P args) → ∃ y ∈ ys, t.choices = some y)
    (hshape : ∀ y ∈ ys, g.skel = some y.skel) :
    E (g.simD pd P args) (optK fun t => t.agS x)
      = sumK (ys.map fun y => if y.agreeWith x then pmassOf (g.assessP pd y args) else 0) := by
  rw [E_split_choices _ _ ys hnd hcov]
  exact congrArg sumK (List.map_congr_left fun y hy =>
    simD_completion_mass pd P hpd g hl hc x y args (hshape y hy))

end Main

end Genjax

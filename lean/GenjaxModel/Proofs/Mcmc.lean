import GenjaxModel.Model.Mcmc
import Mathlib.Algebra.Order.Field.Basic
import Mathlib.Tactic.Ring
import Mathlib.Tactic.Linarith
import Mathlib.Tactic.FieldSimp
/-!
  C09: the Metropolis-Hastings rule satisfies detailed balance; the leapfrog integrator followed
  by a momentum flip is an involution on ℝᵈ × ℝᵈ for an arbitrary force field ℝᵈ → ℝᵈ (the
  reversibility HMC needs).
-/
namespace Genjax.Mcmc

set_option linter.unusedSectionVars false

variable {K : Type} [Field K] [LinearOrder K] [IsStrictOrderedRing K]

/-! ### the accept rule -/

/-- the flow `a·min(1, b/a)` of an MH move is `min(a, b)`, which is symmetric; `x / 0 = 0` makes a
    zero-mass source accept with probability `min 1 0 = 0`, and the flow is 0 either way -/
theorem mul_min_one_div (a b : K) (ha : 0 ≤ a) (hb : 0 ≤ b) : a * min 1 (b / a) = min a b := by
  rcases ha.eq_or_lt with rfl | ha
  · rw [zero_mul, min_eq_left hb]
  · rw [mul_min_of_nonneg _ _ ha.le, mul_one, mul_div_cancel₀ _ ha.ne']

/-- a = π(x)q(x→x'), b = π(x')q(x'→x) -/
theorem mh_detailed_balance (a b : K) (ha : 0 < a) (hb : 0 < b) :
    a * min 1 (b / a) = b * min 1 (a / b) := by
  rw [mul_min_one_div a b ha.le hb.le, mul_min_one_div b a hb.le ha.le, min_comm]

/-- the code's test `log u < min(0, w)` accepts with probability min(1, e^w) -/
theorem accept_iff (logU logW : K) :
    accept logU logW = true ↔ (logU < logW ∧ logU < 0) := by
  unfold accept
  rw [decide_eq_true_iff]
  split_ifs with h
  · exact ⟨fun hu => ⟨hu, hu.trans h⟩, And.left⟩
  · exact ⟨fun hu => ⟨hu.trans_le (not_lt.mp h), hu⟩, And.right⟩

/-! ### vector algebra on lists of equal length -/

@[simp] theorem length_vadd (a b : List K) : (vadd a b).length = min a.length b.length :=
  List.length_zipWith

@[simp] theorem length_smul (c : K) (a : List K) : (smul c a).length = a.length :=
  List.length_map _

@[simp] theorem length_vneg (a : List K) : (vneg a).length = a.length :=
  List.length_map _

theorem length_vadd_eq {a b : List K} {d : Nat} (ha : a.length = d) (hb : b.length = d) :
    (vadd a b).length = d := by
  rw [length_vadd, ha, hb, Nat.min_self]

theorem vneg_vneg (a : List K) : vneg (vneg a) = a := by
  simp [vneg]

theorem vadd_vneg_vadd_cancel (a k : List K) (h : a.length = k.length) :
    vadd (vneg (vadd a k)) k = vneg a := by
  apply List.ext_getElem
  · simp [h]
  · intro i h1 h2
    simp [vadd, vneg]

theorem vadd_smul_vneg_cancel (e : K) (x q : List K) (h : x.length = q.length) :
    vadd (vadd x (smul e q)) (smul e (vneg q)) = x := by
  apply List.ext_getElem
  · simp [h]
  · intro i h1 h2
    simp [vadd, vneg, smul]

/-! ### leapfrog then flip is an involution -/

/-- `g` maps d-dimensional points to d-dimensional vectors (satisfied by `quadGrad A b` for a d×d
    matrix `A`, which is not length-preserving on lists of other lengths) -/
def DimPres (d : Nat) (g : List K → List K) : Prop := ∀ x, x.length = d → (g x).length = d

theorem DimPres_of_forall {g : List K → List K} (hg : ∀ x, (g x).length = x.length) (d : Nat) :
    DimPres d g := fun x hx => by rw [hg, hx]

def WSd (d : Nat) (s : List K × List K) : Prop := s.1.length = d ∧ s.2.length = d

def WS (s : List K × List K) : Prop := s.1.length = s.2.length

theorem WS.wsd {s : List K × List K} (h : WS s) : WSd s.1.length s := ⟨rfl, h.symm⟩

theorem WSd.ws {d : Nat} {s : List K × List K} (h : WSd d s) : WS s := h.1.trans h.2.symm

theorem WSd_flip {d : Nat} {s : List K × List K} (h : WSd d s) : WSd d (flip s) :=
  ⟨h.1, (length_vneg _).trans h.2⟩

theorem flip_flip (s : List K × List K) : flip (flip s) = s := by
  simp [flip, vneg_vneg]

theorem length_kick_drift {d : Nat} {g : List K → List K} (hg : DimPres d g) (eps : K)
    {x p : List K} (hx : x.length = d) (hp : p.length = d) :
    (vadd p (smul (eps / 2) (g x))).length = d ∧
    (vadd x (smul eps (vadd p (smul (eps / 2) (g x))))).length = d := by
  have h1 := length_vadd_eq hp ((length_smul (eps / 2) _).trans (hg x hx))
  exact ⟨h1, length_vadd_eq hx ((length_smul eps _).trans h1)⟩

theorem WSd_leapfrog {d : Nat} {g : List K → List K} (hg : DimPres d g) (eps : K)
    {s : List K × List K} (h : WSd d s) : WSd d (leapfrog g eps s) := by
  obtain ⟨hp1, hx1⟩ := length_kick_drift hg eps h.1 h.2
  exact ⟨hx1, length_vadd_eq hp1 ((length_smul _ _).trans (hg _ hx1))⟩

theorem WSd_leapfrogN {d : Nat} {g : List K → List K} (hg : DimPres d g) (eps : K) (n : Nat)
    {s : List K × List K} (h : WSd d s) : WSd d (leapfrogN g eps n s) := by
  induction n generalizing s with
  | zero => exact h
  | succ n ih => exact ih (WSd_leapfrog hg eps h)

/-- flip ∘ leapfrog ∘ flip inverts leapfrog: the backward step undoes the second half kick, the
    drift and the first half kick in turn -/
theorem leapfrog_flip_leapfrog {d : Nat} {g : List K → List K} (hg : DimPres d g) (eps : K)
    {s : List K × List K} (h : WSd d s) :
    leapfrog g eps (flip (leapfrog g eps s)) = flip s := by
  obtain ⟨x, p⟩ := s
  obtain ⟨hp1, hx1⟩ := length_kick_drift hg eps h.1 h.2
  have hg1 := (length_smul (eps / 2) _).trans (hg _ hx1)
  have hg0 := (length_smul (eps / 2) _).trans (hg x h.1)
  simp only [leapfrog, flip]
  rw [vadd_vneg_vadd_cancel _ _ (hp1.trans hg1.symm),
    vadd_smul_vneg_cancel _ _ _ (h.1.trans hp1.symm),
    vadd_vneg_vadd_cancel _ _ (h.2.trans hg0.symm)]

theorem leapfrogN_succ' (g : List K → List K) (eps : K) (n : Nat) (s : List K × List K) :
    leapfrogN g eps (n + 1) s = leapfrog g eps (leapfrogN g eps n s) := by
  induction n generalizing s with
  | zero => rfl
  | succ n ih => exact ih (leapfrog g eps s)

theorem leapfrogN_flip_leapfrogN {d : Nat} {g : List K → List K} (hg : DimPres d g) (eps : K)
    (n : Nat) {s : List K × List K} (h : WSd d s) :
    leapfrogN g eps n (flip (leapfrogN g eps n s)) = flip s := by
  induction n generalizing s with
  | zero => rfl
  | succ n ih =>
    rw [leapfrogN_succ', leapfrogN, ih (WSd_leapfrog hg eps h)]
    exact leapfrog_flip_leapfrog hg eps h

/-- the proposal of HMC is reversible -/
theorem leapfrogN_flip_involutive {d : Nat} {g : List K → List K} (hg : DimPres d g) (eps : K)
    (n : Nat) {s : List K × List K} (h : WSd d s) :
    flip (leapfrogN g eps n (flip (leapfrogN g eps n s))) = s := by
  rw [leapfrogN_flip_leapfrogN hg eps n h, flip_flip]

/-! the same for a force field that preserves the length of every list -/

theorem WS_flip {s : List K × List K} (h : WS s) : WS (flip s) := (WSd_flip h.wsd).ws

theorem WS_leapfrogN (g : List K → List K) (hg : ∀ x, (g x).length = x.length) (eps : K)
    (n : Nat) {s : List K × List K} (h : WS s) : WS (leapfrogN g eps n s) :=
  (WSd_leapfrogN (DimPres_of_forall hg _) eps n h.wsd).ws

theorem leapfrog_flip_involutive (g : List K → List K) (hg : ∀ x, (g x).length = x.length)
    (eps : K) (x p : List K) (hl : x.length = p.length) :
    flip (leapfrog g eps (flip (leapfrog g eps (x, p)))) = (x, p) :=
  leapfrogN_flip_involutive (DimPres_of_forall hg _) eps 1 (WS.wsd (s := (x, p)) hl)

end Genjax.Mcmc

import GenjaxModel.Model.AdevProgIO
import GenjaxModel.Proofs.AdevProg
import Mathlib.Algebra.Field.Rat
import Mathlib.Tactic.Ring
/-!
  C11, the driver command `adev-prog` (Model/AdevProgIO.lean): what the numbers it prints mean.

  The printed flag `guards T` implies `Prog.OK` (`Prog.okB_sound`), `sprog T` means that the text has no
  `branch` (`PAst.report_sprog`), and merging equal duals and sorting keeps every weighted sum
  (`canon_wsum`); hence `PAst.report_sound`.
-/
namespace Genjax.Adev
open Genjax.Smc.FinDist (E mass)
open Genjax.Smc (FinDist)

/-! ### the decided guards -/

theorem Prog.okB_sound (p : Prog Rat) (h : Prog.okB p = true) : p.OK := by
  induction p with
  | ret r => trivial
  | flip e p k ih =>
      simp only [Prog.okB, Bool.and_eq_true, Bool.or_eq_true, bne_iff_ne, ne_eq] at h
      obtain ⟨⟨h1, hT⟩, hF⟩ := h
      exact ⟨fun he => h1.resolve_left (not_not_intro he), Bool.forall_bool.mpr ⟨ih false hF, ih true hT⟩⟩
  | cat e ps k ih =>
      simp only [Prog.okB, Bool.and_eq_true, Bool.or_eq_true, bne_iff_ne, ne_eq, beq_iff_eq,
        List.all_eq_true, List.mem_range] at h
      obtain ⟨⟨h1, h2⟩, h3⟩ := h
      exact ⟨h1, fun he => h2.resolve_left (not_not_intro he), fun i hi => ih i (h3 i hi)⟩

/-! ### straight-line reading of a program text -/

section Ast
variable {K : Type} [Zero K] [One K] [Add K] [Sub K] [Mul K] [Div K] [Neg K] [NatCast K]

omit [One K] in
theorem PAst.toSProg_toProg (th : Dual K) (a : PAst K) (sp : SProg K) (h : a.toSProg th = some sp)
    (outs : List Outcome) : sp.toProg outs = a.toProg th outs := by
  induction a generalizing sp outs with
  | ret e =>
      obtain rfl := Option.some.inj h
      rfl
  | flip est p rest ih =>
      obtain ⟨r, hr, rfl⟩ := Option.map_eq_some_iff.mp h
      exact congrArg (Prog.flip est _) (funext fun _ => ih r hr _)
  | cat est ws rest ih =>
      obtain ⟨r, hr, rfl⟩ := Option.map_eq_some_iff.mp h
      exact congrArg (Prog.cat est _) (funext fun _ => ih r hr _)
  | branch i t e _ _ => cases h

end Ast

/-! ### canonical form keeps weighted sums -/

/-- Σ p · g(value, tangent) over a list of (value, tangent, probability) entries -/
def wsum (g : Rat → Rat → Rat) : List (Rat × Rat × Rat) → Rat
  | [] => 0
  | (v, d, p) :: tl => p * g v d + wsum g tl

theorem wsum_canonInsert (g : Rat → Rat → Rat) (v d p : Rat) (l : List (Rat × Rat × Rat)) :
    wsum g (canonInsert v d p l) = p * g v d + wsum g l := by
  induction l with
  | nil => simp [canonInsert, wsum]
  | cons hd tl ih =>
      obtain ⟨v', d', p'⟩ := hd
      unfold canonInsert
      split
      · rename_i h
        obtain ⟨rfl, rfl⟩ := h
        simp only [wsum]
        ring
      · split
        · simp only [wsum]
        · simp only [wsum, ih]
          ring

theorem sumRat_nil : sumRat [] = 0 := rfl

theorem foldl_add_eq_sumK (l : List Rat) (a : Rat) : l.foldl (· + ·) a = a + Genjax.Smc.sumK l := by
  induction l generalizing a with
  | nil => exact (add_zero a).symm
  | cons x xs ih => exact (ih (a + x)).trans (add_assoc a x _)

theorem sumRat_eq_sumK (l : List Rat) : sumRat l = Genjax.Smc.sumK l :=
  (foldl_add_eq_sumK l 0).trans (zero_add _)

theorem sumRat_map_eq_E {α : Type} (d : FinDist Rat α) (f : α → Rat) :
    sumRat (d.map fun (a, p) => p * f a) = E d f :=
  sumRat_eq_sumK _

theorem canon_wsum_aux (g : Rat → Rat → Rat) (dist : FinDist Rat (Dual Rat)) (acc : List (Rat × Rat × Rat)) :
    wsum g (dist.foldl (fun acc (r, p) => canonInsert r.v r.d p acc) acc)
      = wsum g acc + E dist fun r => g r.v r.d := by
  induction dist generalizing acc with
  | nil => exact (add_zero _).symm
  | cons hd tl ih =>
      obtain ⟨r, p⟩ := hd
      rw [List.foldl_cons, ih, wsum_canonInsert, Genjax.Smc.E_cons, add_comm (p * _), add_assoc]

theorem canon_wsum (g : Rat → Rat → Rat) (dist : FinDist Rat (Dual Rat)) :
    wsum g (canon dist) = E dist fun r => g r.v r.d :=
  (canon_wsum_aux g dist []).trans (zero_add _)

/-! ### the report -/

theorem PAst.reportProg_eq (θ : Rat) (a : PAst Rat) : a.reportProg θ = a.toProg ⟨θ, 1⟩ [] := by
  unfold PAst.reportProg
  split
  · rename_i sp h
    exact PAst.toSProg_toProg _ a sp h []
  · rfl

/-- the comparison of the two unfoldings that `sprog` also makes cannot fail -/
theorem PAst.report_sprog (θ : Rat) (a : PAst Rat) :
    (a.report θ).sprog = (a.toSProg ⟨θ, 1⟩).isSome := by
  show ((a.toSProg ⟨θ, 1⟩).isSome && (a.reportProg θ).exact == (a.toProg ⟨θ, 1⟩ []).exact
    && canon (a.reportProg θ).est == canon (a.toProg ⟨θ, 1⟩ []).est) = _
  rw [PAst.reportProg_eq, beq_self_eq_true, beq_self_eq_true, Bool.and_true, Bool.and_true]

/-- if the driver answers `guards T`, the `est` entries it prints (equal duals merged) have total
    probability 1 and weighted mean the `exact` dual it prints; so are the unmerged `mean` / `mass`. -/
theorem PAst.report_sound (θ : Rat) (a : PAst Rat) (h : (a.report θ).guards = true) :
    wsum (fun v _ => v) (a.report θ).est = (a.report θ).exact.v ∧
    wsum (fun _ d => d) (a.report θ).est = (a.report θ).exact.d ∧
    wsum (fun _ _ => 1) (a.report θ).est = 1 ∧
    (a.report θ).mean = (a.report θ).exact ∧ (a.report θ).mass = 1 := by
  have ok : (a.reportProg θ).OK := Prog.okB_sound _ h
  have hm : meanD (a.reportProg θ).est = (a.reportProg θ).exact := Prog.meanD_est _ ok
  refine ⟨(canon_wsum _ _).trans (congrArg Dual.v hm), (canon_wsum _ _).trans (congrArg Dual.d hm),
    (canon_wsum _ _).trans (Prog.mass_est _ ok), ?_, ?_⟩
  · exact (Dual.ext (sumRat_map_eq_E _ _) (sumRat_map_eq_E _ _)).trans hm
  · exact (congrArg sumRat (List.map_congr_left fun x _ => (mul_one x.2).symm)).trans
      ((sumRat_map_eq_E _ fun _ => 1).trans (Prog.mass_est _ ok))

end Genjax.Adev

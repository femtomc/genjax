import GenjaxModel.Model.ViElbo
import GenjaxModel.Proofs.ViMerge
import GenjaxModel.Proofs.GfiGenSum
import GenjaxModel.Proofs.GfiCohInv
import GenjaxModel.Proofs.Adev
import Mathlib.Algebra.BigOperators.Group.Finset.Basic
/-!
  C17: the ELBO objective of `elbo_factory` in terms of the generative-function model
  (`Model/ViElbo.lean`).

  Per draw the objective is assess(merged).1 + score = log p(x,z) − log q(z) (`elbo_value`).  The
  statements in expectation rest on `simD_E_choices`: E over `q.simD` of a function of the trace's
  choice map is the finite sum Σ_z q(z) · f(z) (the law of `simulate`, C01).  Masses pushed along a
  ring homomorphism (`assessP_ringHom`) let a model over ℝ whose masses are casts of rationals be
  evaluated over ℚ.
-/
namespace Genjax.Vi
open Genjax Smc Smc.FinDist

/-! ## the value of one draw (log domain) -/

section Value
variable {R : Type} [AddCommGroup R] (P : Prims R)

/-- Per draw the objective is `assess(merge(constraint, z)).1 + score(t)`, the family's `assess`
    accepts `z`, and `score(t) = −(log q(z))`, so the objective is `log p(x,z) − log q(z)`. -/
theorem elbo_value (p : GF) (pargs : List Val) (q : GF) (qargs : List Val) (xobs : CM) (t : Tr R)
    (hcoh : q.Coh P qargs t) (z : CM) (hz : t.choices = some z) (m : CM)
    (hm : CM.mergeNoCheck xobs z = some m) (lp : R) (r : Val)
    (hp : p.assess P m pargs = some (lp, r)) :
    elboDraw P p pargs xobs t = some (lp + t.score) ∧
    ∃ lq, q.assess P z qargs = some (lq, t.retval) ∧ t.score = -lq ∧ lp + t.score = lp - lq :=
  ⟨by simp only [elboDraw, hz, hm, hp, Option.bind_eq_bind, Option.bind_some, Option.pure_def],
    -t.score, coh_assess P q qargs t hcoh z hz, (neg_neg _).symm, (sub_neg_eq_add _ _).symm⟩

end Value

/-! ## expectations over the family's draws (linear domain) -/

section Expect
variable {K : Type} [Field K] {R : Type} [AddCommGroup R] (pd : PD K) (P : Prims R)

omit [AddCommGroup R] in
theorem elboRatio_of_choices (p : GF) (pargs : List Val) (q : GF) (qargs : List Val) (xobs : CM)
    (t : Tr R) (z : CM) (hz : t.choices = some z) :
    elboRatio pd p pargs q qargs xobs t = elboRatioZ pd p pargs q qargs xobs z := by
  simp only [elboRatio, hz, Option.bind_eq_bind, Option.bind_some]

theorem elboRatioZ_of_some {p : GF} {pargs : List Val} {q : GF} {qargs : List Val} {xobs z : CM}
    {pp : K} {qr : K × Val} (hj : elboJoint pd p pargs xobs z = some pp)
    (hq : q.assessP pd z qargs = some qr) :
    elboRatioZ pd p pargs q qargs xobs z = some (pp / qr.1) := by
  simp only [elboRatioZ, hj, hq, Option.bind_eq_bind, Option.bind_some, Option.pure_def]

theorem elbo_E_fn (hpd : pd.WF) (hnorm : pd.Normalised) (p : GF) (pargs : List Val) (q : GF)
    (hc : q.condOK = true) (qargs : List Val) (xobs : CM) (Z : List CM) (hnd : Z.Nodup)
    (hcov : ∀ t, some t ∈ supp (q.simD pd P qargs) → ∃ z ∈ Z, t.choices = some z)
    (hshape : ∀ z ∈ Z, q.skel = some z.skel) (g : Option K → K) :
    E (q.simD pd P qargs) (optK fun t => g (elboRatio pd p pargs q qargs xobs t))
      = sumK (Z.map fun z => pmassOf (q.assessP pd z qargs) * g (elboRatioZ pd p pargs q qargs xobs z)) :=
  simD_E_choices pd P hpd hnorm q hc qargs Z hnd hcov hshape _ _ fun t z hz => by
    rw [elboRatio_of_choices pd p pargs q qargs xobs t z hz]

/-- importance-sampling identity: `E_{z~q}[p(x,z)/q(z)] = Σ_z p(x,z)`, the evidence, whenever `q`
    dominates `p(x,·)`.  `hdef` is implied by `q.noCollide` (`assessP_defined`); where the target's
    `merge`/`assess` raises both sides count 0. -/
theorem elbo_unbiased (hpd : pd.WF) (hnorm : pd.Normalised) (p : GF) (pargs : List Val) (q : GF)
    (hc : q.condOK = true) (qargs : List Val) (xobs : CM) (Z : List CM) (hnd : Z.Nodup)
    (hcov : ∀ t, some t ∈ supp (q.simD pd P qargs) → ∃ z ∈ Z, t.choices = some z)
    (hshape : ∀ z ∈ Z, q.skel = some z.skel)
    (hdef : ∀ z ∈ Z, (q.assessP pd z qargs).isSome)
    (hac : ∀ z ∈ Z, pmassOf (q.assessP pd z qargs) = 0 →
      (elboJoint pd p pargs xobs z).getD 0 = 0) :
    E (q.simD pd P qargs) (optK fun t => (elboRatio pd p pargs q qargs xobs t).getD 0)
      = sumK (Z.map fun z => (elboJoint pd p pargs xobs z).getD 0) := by
  rw [elbo_E_fn pd P hpd hnorm p pargs q hc qargs xobs Z hnd hcov hshape (fun o => o.getD 0)]
  congr 1
  apply List.map_congr_left
  intro z hz
  obtain ⟨qr, hq⟩ := Option.isSome_iff_exists.mp (hdef z hz)
  have ha := hac z hz
  rw [hq] at ha ⊢
  cases hj : elboJoint pd p pargs xobs z with
  | none =>
    rw [elboRatioZ, hj]
    exact mul_zero _
  | some pp =>
    rw [elboRatioZ_of_some pd hj hq]
    show qr.1 * (pp / qr.1) = pp
    by_cases h0 : qr.1 = 0
    · have hpp : pp = 0 := by rw [hj] at ha; exact ha h0
      rw [hpp, zero_div, mul_zero]
    · exact mul_div_cancel₀ pp h0

end Expect

theorem sumK_eq_finset_sum {K : Type} [Field K] {α : Type} [DecidableEq α] (l : List α)
    (hl : l.Nodup) (f : α → K) : sumK (l.map f) = ∑ a ∈ l.toFinset, f a := by
  induction l with
  | nil => rfl
  | cons a l ih =>
    have hl' := List.nodup_cons.mp hl
    rw [List.map_cons, sumK_cons, List.toFinset_cons,
      Finset.sum_insert (by rw [List.mem_toFinset]; exact hl'.1), ih hl'.2]

/-! ## masses along a ring homomorphism -/

section RingHom
variable {K L : Type} [Field K] [Field L] (f : K →+* L) (pd : PD K) (pd' : PD L)
  (h : ∀ d a v, pd'.pm d a v = f (pd.pm d a v))
include h

/-- both sides are `assess` at the weight structure `Lin K`, read through `f` resp. the identity -/
theorem assessP_ringHom (g : GF) (x : CM) (args : List Val) :
    g.assessP pd' x args = (g.assessP pd x args).map fun p => (f p.1, p.2) := by
  rw [assessP_eq_exp_assess (fun a : Lin K => f a.val) (map_one f) (fun _ _ => map_mul f _ _) pd'
      (linPrims pd) h,
    assessP_eq_exp_assess (fun a : Lin K => a.val) rfl (fun _ _ => rfl) pd (linPrims pd)
      (fun _ _ _ => rfl), Option.map_map]
  rfl

theorem pmassOf_assessP_ringHom (g : GF) (x : CM) (args : List Val) :
    pmassOf (g.assessP pd' x args) = f (pmassOf (g.assessP pd x args)) := by
  rw [assessP_ringHom f pd pd' h]
  cases g.assessP pd x args with
  | none => exact (map_zero f).symm
  | some _ => rfl

theorem elboJoint_ringHom (p : GF) (pargs : List Val) (xobs z : CM) :
    elboJoint pd' p pargs xobs z = (elboJoint pd p pargs xobs z).map f := by
  unfold elboJoint
  cases CM.mergeNoCheck xobs z with
  | none => rfl
  | some m =>
    simp only [Option.bind_eq_bind, Option.bind_some, assessP_ringHom f pd pd' h]
    cases p.assessP pd m pargs <;> rfl

end RingHom

/-! ## instances for the non-vacuity examples of `Props/C17.lean` -/

section Instances

/-- target: `b ~ coin(1/2); z ~ three(1/2, 1/3, 1/6); y ~ coin(1/8 + b/2 + z/8); return y`
    (primitives `lawExPD`) -/
def elboExP : GF :=
  .fn (.call "b" (.dist 0) [.const (1/2)]
      (.call "z" (.dist 1) []
        (.call "y" (.dist 0)
          [.add (.const (1/8)) (.add (.mul (.var 0) (.const (1/2))) (.mul (.var 1) (.const (1/8))))]
          (.ret (.var 2)))))

/-- family: `b ~ coin(theta); z ~ three; return b` (argument 0 = theta) -/
def elboExQ : GF :=
  .fn (.call "b" (.dist 0) [.var 0] (.call "z" (.dist 1) [] (.ret (.var 1))))

/-- constraint `{y: 1}` -/
def elboExObs : CM := .node (.cons "y" (.leaf (.num 1)) .nil)

def elboExZ1 (b z : Rat) : CM :=
  .node (.cons "b" (.leaf (.num b)) (.cons "z" (.leaf (.num z)) .nil))

def elboExZ : List CM :=
  [elboExZ1 0 0, elboExZ1 0 1, elboExZ1 0 2, elboExZ1 1 0, elboExZ1 1 1, elboExZ1 1 2]

/-- target `b ~ coin(1/2); y ~ coin(1/4 + b/2)`; with `y = 1`: `p(x) = 1/2`, posterior `P(b=1) = 3/4` -/
def tightExP : GF :=
  .fn (.call "b" (.dist 0) [.const (1/2)]
      (.call "y" (.dist 0) [.add (.const (1/4)) (.mul (.var 0) (.const (1/2)))] (.ret (.var 1))))

/-- family `b ~ coin(theta)` -/
def tightExQ : GF := .fn (.call "b" (.dist 0) [.var 0] (.ret (.var 1)))

def tightExZ : List CM :=
  [.node (.cons "b" (.leaf (.num 0)) .nil), .node (.cons "b" (.leaf (.num 1)) .nil)]

/-- a family that also proposes a value at the observed address `y` -/
def sharedExQ : GF :=
  .fn (.call "b" (.dist 0) [.var 0] (.call "y" (.dist 0) [.const (1/4)] (.ret (.var 1))))

/-- a coin over ℝ: `P(1) = params[0]` (a rational, cast) -/
noncomputable def realCoin : PD ℝ where
  support := fun _ _ => [.num 0, .num 1]
  pm := fun _ a v =>
    if v = .num 1 then ((a.getD 0 .nil).toRat : ℝ)
    else if v = .num 0 then 1 - ((a.getD 0 .nil).toRat : ℝ) else 0

theorem realCoin_wf : realCoin.WF := by
  constructor
  · intro d a
    show [Val.num 0, Val.num 1].Nodup
    decide
  · intro d a v hv
    simp only [realCoin, List.mem_cons, List.not_mem_nil, or_false, not_or] at hv ⊢
    rw [if_neg hv.2, if_neg hv.1]

theorem realCoin_normalised : realCoin.Normalised := by
  intro d a
  simp [realCoin, sumK]

/-- the same coin over ℚ: `realCoin` is its cast -/
def ratCoin : PD ℚ where
  support := fun _ _ => [.num 0, .num 1]
  pm := fun _ a v =>
    if v = .num 1 then (a.getD 0 .nil).toRat
    else if v = .num 0 then 1 - (a.getD 0 .nil).toRat else 0

theorem realCoin_pm (d : Nat) (a : List Val) (v : Val) :
    realCoin.pm d a v = Rat.castHom ℝ (ratCoin.pm d a v) := by
  simp only [realCoin, ratCoin, apply_ite (Rat.castHom ℝ), map_sub, map_one, map_zero]
  rfl

/-- the hypotheses of `C17_elbo_le_log_evidence` on `tightExP` / `tightExQ` with `theta = 1/3` over
    ℝ; the masses are evaluated over ℚ -/
theorem realCoin_instance :
    (tightExQ.noCollide = true ∧ tightExQ.condOK = true ∧ tightExZ.Nodup) ∧
    (∀ t, some t ∈ supp (tightExQ.simD realCoin lawExP [.num (1/3)]) →
      ∃ z ∈ tightExZ, t.choices = some z) ∧
    (∀ z ∈ tightExZ, tightExQ.skel = some z.skel) ∧
    (∀ z ∈ tightExZ, ∃ pp, elboJoint realCoin tightExP [] elboExObs z = some pp ∧ 0 < pp) ∧
    (∀ z ∈ tightExZ, 0 < pmassOf (tightExQ.assessP realCoin z [.num (1/3)])) := by
  have hJ : ∀ z ∈ tightExZ, ∃ pp, elboJoint ratCoin tightExP [] elboExObs z = some pp ∧ 0 < pp := by
    decide +kernel
  have hQ : ∀ z ∈ tightExZ, 0 < pmassOf (tightExQ.assessP ratCoin z [.num (1/3)]) := by
    decide +kernel
  refine ⟨⟨by decide +kernel, by decide +kernel, by decide +kernel⟩,
    covers_of_coversB _ _ (by decide +kernel), by decide +kernel, fun z hz => ?_, fun z hz => ?_⟩
  · obtain ⟨pp, h1, h2⟩ := hJ z hz
    exact ⟨(pp : ℝ), by rw [elboJoint_ringHom (Rat.castHom ℝ) ratCoin realCoin realCoin_pm, h1]; rfl,
      Rat.cast_pos.mpr h2⟩
  · rw [pmassOf_assessP_ringHom (Rat.castHom ℝ) ratCoin realCoin realCoin_pm]
    exact Rat.cast_pos.mpr (hQ z hz)

end Instances

end Genjax.Vi

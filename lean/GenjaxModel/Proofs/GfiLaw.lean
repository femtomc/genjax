import GenjaxModel.Proofs.GfiDistMonad
import GenjaxModel.Proofs.GfiAssessCond
/-!
  The law of `simulate` (second half of C01): under `GF.simD` the probability that the trace's
  choice map is `x` is the product of the site masses `GF.assessP` computes on `x`, and the trace's
  return value is the one `assessP` returns:

      E (simD g args) (optK (choicesAre x ψ)) = massOf (assessP g x args) ψ      (`GF.Law`)

  for every `x` of the program's static choice-map shape (`g.skel = some x.skel`), under the
  hypothesis `GF.LawHyp` on the Conds (`simD_law` in `GfiLawMain.lean` derives it from `condOK` and
  normalised primitives).  In a Fn body the sub-traces built so far are matched against a prefix of
  the choice-map dict (`TrL.strip`, `BodyLawInv`).
-/
namespace Genjax
open Smc Smc.FinDist

/-! ## entry lists of choice maps -/

theorem CML.find?_cons_self (k : String) (v : CM) (r : CML) : (CML.cons k v r).find? k = some v :=
  if_pos rfl

theorem CML.find?_cons_ne {a k : String} (h : a ≠ k) (v : CM) (r : CML) :
    (CML.cons k v r).find? a = r.find? a := if_neg h

theorem CML.find?_step {seen : List String} {Y r : CML} {addr : String} {c : CM}
    (hY : ∀ a, seen.contains a = false → Y.find? a = (CML.cons addr c r).find? a) :
    ∀ a, (addr :: seen).contains a = false → Y.find? a = r.find? a := by
  intro a ha
  obtain ⟨hne, ha⟩ := Bool.or_eq_false_iff.mp ((List.contains_cons ..).symm.trans ha)
  exact (hY a ha).trans (CML.find?_cons_ne (beq_eq_false_iff_ne.mp hne) c r)

theorem CML.skel_eq_nil {l : CML} (h : l.skel = .nil) : l = .nil := by
  cases l with
  | nil => rfl
  | cons k v r => cases h

theorem CML.skel_eq_cons {l : CML} {k : String} {v : CM} {r : CML} (h : l.skel = .cons k v r) :
    ∃ c l', l = .cons k c l' ∧ c.skel = v ∧ l'.skel = r := by
  cases l with
  | nil => cases h
  | cons k' c l' =>
    cases h
    exact ⟨c, l', rfl, rfl, rfl⟩

theorem CM.skel_leaf {x : CM} (h : CM.leaf .nil = x.skel) : ∃ v, x = .leaf v := by
  cases x with
  | leaf v => exact ⟨v, rfl⟩
  | _ => cases h

theorem CM.skel_node {x : CM} {s : CML} (h : CM.node s = x.skel) : ∃ l, x = .node l ∧ s = l.skel := by
  cases x with
  | node l => cases h; exact ⟨l, rfl, rfl⟩
  | _ => cases h

theorem CM.skel_lanes {x : CM} {s : CML} (h : CM.lanes s = x.skel) :
    ∃ l, x = .lanes l ∧ s = l.skel := by
  cases x with
  | lanes l => cases h; exact ⟨l, rfl, rfl⟩
  | _ => cases h

theorem CM.some_leaf_eq_iff {v v0 : Val} : some (CM.leaf v) = some (CM.leaf v0) ↔ v = v0 :=
  ⟨fun h => CM.leaf.inj (Option.some.inj h), fun h => congrArg _ (congrArg _ h)⟩

/-! ## the shape hypothesis `g.skel = some x.skel`, constructor by constructor -/

theorem skelLanes_eq {n : Nat} {s : Option CM} {l : CML} (h : skelLanes n s = some l.skel) :
    l = CML.ofList l.toList ∧ l.toList.length = n ∧ ∀ x ∈ l.toList, s = some x.skel := by
  induction n generalizing l with
  | zero =>
    cases CML.skel_eq_nil (Option.some.inj h).symm
    exact ⟨rfl, rfl, fun _ h => absurd h List.not_mem_nil⟩
  | succ n ih =>
    obtain ⟨x, rfl, h⟩ := Option.bind_eq_some_iff.mp h
    obtain ⟨r, hr, h⟩ := Option.bind_eq_some_iff.mp h
    obtain ⟨c, l', rfl, hc, hl'⟩ := CML.skel_eq_cons (Option.some.inj h).symm
    obtain ⟨h1, h2, h3⟩ := ih (hr.trans (congrArg some hl'.symm))
    exact ⟨congrArg (CML.cons "" c) h1, congrArg Nat.succ h2,
      List.forall_mem_cons.mpr ⟨congrArg some hc.symm, h3⟩⟩

theorem GF.skel_fn {body : Body} {x : CM} (h : (GF.fn body).skel = some x.skel) :
    ∃ X, x = .node X ∧ body.skel = some X.skel := by
  obtain ⟨s, hb, hs⟩ := Option.map_eq_some_iff.mp h
  obtain ⟨X, rfl, rfl⟩ := CM.skel_node hs
  exact ⟨X, rfl, hb⟩

theorem skelLanes_lanes {n : Nat} {s : Option CM} {x : CM}
    (h : (skelLanes n s).map CM.lanes = some x.skel) :
    ∃ l, x = .lanes l ∧ l = CML.ofList l.toList ∧ l.toList.length = n ∧
      ∀ y ∈ l.toList, s = some y.skel := by
  obtain ⟨s', hb, hs⟩ := Option.map_eq_some_iff.mp h
  obtain ⟨l, rfl, rfl⟩ := CM.skel_lanes hs
  exact ⟨l, rfl, skelLanes_eq hb⟩

theorem Body.skel_call {addr : String} {g : GF} {es : List Expr} {rest : Body} {rem : CML}
    (h : (Body.call addr g es rest).skel = some rem.skel) :
    ∃ c rem', rem = .cons addr c rem' ∧ g.skel = some c.skel ∧ rest.skel = some rem'.skel := by
  obtain ⟨gs, hg, h⟩ := Option.bind_eq_some_iff.mp h
  obtain ⟨rs, hr, h⟩ := Option.bind_eq_some_iff.mp h
  obtain ⟨c, rem', rfl, rfl, rfl⟩ := CML.skel_eq_cons (Option.some.inj h).symm
  exact ⟨c, rem', rfl, hg, hr⟩

/-! ### Cond: merging two maps of the same shape selects one of them -/

theorem mergeCheck_same_aux (c : Bool) :
    (∀ a b : CM, a.skel = b.skel → CM.mergeCheck c a b = some (if c then a else b)) ∧
    ∀ a : CML, (∀ b, a.skel = b.skel → CML.mergeCheck c a b = some (if c then a else b)) ∧
      ∀ b, a.skel = b.skel → CML.mergeLanes c a b = some (if c then a else b) := by
  refine CM.rec_both ?_ ?_ ?_ ?_ ?_
  · intro va b h
    cases b with
    | leaf vb => cases c <;> rfl
    | _ => cases h
  · intro a ih b h
    cases b with
    | node b =>
      dsimp only [CM.mergeCheck]
      rw [ih.1 b (CM.node.inj h)]
      cases c <;> rfl
    | _ => cases h
  · intro a ih b h
    cases b with
    | lanes b =>
      dsimp only [CM.mergeCheck]
      rw [ih.2 b (CM.lanes.inj h)]
      cases c <;> rfl
    | _ => cases h
  · refine ⟨fun b h => ?_, fun b h => ?_⟩ <;> cases CML.skel_eq_nil h.symm <;> cases c <;> rfl
  · intro k v rest ihv ihr
    refine ⟨fun b h => ?_, fun b h => ?_⟩ <;>
      obtain ⟨v', rest', rfl, hv, hr⟩ := CML.skel_eq_cons (l := b) h.symm
    · dsimp only [CML.mergeCheck]
      rw [CML.find?_cons_self]
      dsimp only [CML.erase]
      rw [if_pos rfl, ihv v' hv.symm, (ihr.1 rest' hr.symm)]
      cases c <;> rfl
    · dsimp only [CML.mergeLanes]
      rw [ihv v' hv.symm, (ihr.2 rest' hr.symm)]
      cases c <;> rfl

theorem CM.mergeCheck_same (c : Bool) : (a b : CM) → a.skel = b.skel →
      CM.mergeCheck c a b = some (if c then a else b) :=
  (mergeCheck_same_aux c).1

theorem CML.mergeCheck_same (c : Bool) : (a b : CML) → a.skel = b.skel →
      CML.mergeCheck c a b = some (if c then a else b) :=
  fun a => ((mergeCheck_same_aux c).2 a).1

theorem CML.mergeLanes_same (c : Bool) : (a b : CML) → a.skel = b.skel →
      CML.mergeLanes c a b = some (if c then a else b) :=
  fun a => ((mergeCheck_same_aux c).2 a).2

theorem GF.skel_cond {t f : GF} {s : CM} (hsk : t.skel = f.skel)
    (h : (GF.cond t f).skel = some s) : t.skel = some s := by
  obtain ⟨a, ha, h⟩ := Option.bind_eq_some_iff.mp h
  obtain ⟨b, hb, h⟩ := Option.bind_eq_some_iff.mp h
  cases Option.some.inj ((hsk.trans hb).symm.trans ha)
  exact ha.trans ((CM.mergeCheck_same true a a rfl).symm.trans h)

theorem exists_choices_skel_eq {R : Type} {t : Tr R} {x : CM}
    (h : t.choices.map CM.skel = some x.skel) : ∃ y, t.choices = some y ∧ y.skel = x.skel :=
  Option.map_eq_some_iff.mp h

theorem skel_of_canon_choices {R : Type} [Zero R] [Add R] [Neg R] (P : Prims R) (g : GF)
    (args : List Val) (t : Tr R) (hc : g.Canon t) (h : g.Coh P args t) {x : CM}
    (hx : t.choices = some x) : g.skel = some x.skel :=
  (canon_choices_skel P g args t hc h).symm.trans (congrArg (Option.map CM.skel) hx)

/-! ## lanes as lists -/

section Traces
variable {R : Type}

theorem TrL.retvals_ofList (ts : List (Tr R)) :
    (TrL.ofList ts).retvals = Val.ofList (ts.map Tr.retval) := by
  rw [TrL.retvals_eq, TrL.toList_ofList]

theorem TrL.outs_ofList (ts : List (Tr R)) :
    (TrL.ofList ts).outs = Val.ofList (ts.map fun t => t.retval.snd) := by
  rw [TrL.outs_eq, TrL.toList_ofList, List.map_map]
  rfl

theorem TrL.choices_ofList_iff (ts : List (Tr R)) (l : CML) :
    (TrL.ofList ts).choices = some l ↔
      (l = CML.ofList l.toList ∧ ts.map Tr.choices = l.toList.map some) := by
  induction ts generalizing l with
  | nil =>
    cases l with
    | nil => exact ⟨fun _ => ⟨rfl, rfl⟩, fun _ => rfl⟩
    | cons k v r => exact ⟨fun h => (by cases h), fun h => (by cases h.2)⟩
  | cons t ts ih =>
    refine TrL.choices_cons.trans ⟨?_, ?_⟩
    · rintro ⟨c, r, ht, hr, rfl⟩
      obtain ⟨h1, h2⟩ := (ih r).mp hr
      exact ⟨congrArg (CML.cons "" c) h1, congrArg₂ List.cons ht h2⟩
    · intro ⟨h1, h2⟩
      cases l with
      | nil => cases h2
      | cons k v r =>
        injection h2 with ht h2
        obtain ⟨rfl, -, h1⟩ := CML.cons.inj h1
        exact ⟨v, r, ht, (ih r).mpr ⟨h1, h2⟩, rfl⟩

theorem TrL.choices_ofList_lanes {l : CML} (hl : l = CML.ofList l.toList) (ts : List (Tr R)) :
    (TrL.ofList ts).choices.map CM.lanes = some (.lanes l) ↔
      ts.map Tr.choices = l.toList.map some :=
  ((Option.map_injective (f := CM.lanes) fun _ _ => CM.lanes.inj).eq_iff (b := some l)).trans
    ((TrL.choices_ofList_iff ts l).trans (and_iff_right hl))

/-! ## matching a list of sub-traces against a prefix of a choice-map dict -/

/-- strip from the dict `X` the prefix that the choice maps of `l` spell out (same keys, same
    sub-maps, in order); `none` = mismatch -/
def TrL.strip : TrL R → CML → Option CML
  | .nil, X => some X
  | .cons k t rest, .cons k' c X => if k = k' ∧ t.choices = some c then rest.strip X else none
  | .cons _ _ _, .nil => none

/-- what `TrL.strip` does for one more sub-trace (`TrL.strip_snoc`) -/
def stepRem (k : String) (oc : Option CM) : CML → Option CML
  | .cons k' c r => if k = k' ∧ oc = some c then some r else none
  | .nil => none

theorem TrL.choices_iff_strip : (l : TrL R) → (X : CML) →
    (l.choices = some X ↔ l.strip X = some .nil)
  | .nil, X => ⟨fun h => congrArg some (Option.some.inj h).symm,
      fun h => congrArg some (Option.some.inj h).symm⟩
  | .cons k t rest, .nil => by
      refine ⟨fun h => ?_, fun h => by cases h⟩
      obtain ⟨_, _, _, _, h⟩ := TrL.choices_cons.mp h
      cases h
  | .cons k t rest, .cons k' c X => by
      rw [TrL.choices_cons]
      dsimp only [TrL.strip]
      constructor
      · rintro ⟨_, _, ht, hr, h⟩
        cases h
        rw [if_pos ⟨rfl, ht⟩]
        exact (TrL.choices_iff_strip rest X).mp hr
      · intro h
        split at h
        · next hk =>
          obtain ⟨rfl, ht⟩ := hk
          exact ⟨c, X, ht, (TrL.choices_iff_strip rest X).mpr h, rfl⟩
        · cases h

theorem TrL.strip_snoc : (l : TrL R) → (k : String) → (t : Tr R) → (X : CML) →
    (l.snoc k t).strip X = (l.strip X).bind (stepRem k t.choices)
  | .nil, k, t, X => by cases X <;> rfl
  | .cons k0 t0 rest, k, t, .nil => rfl
  | .cons k0 t0 rest, k, t, .cons k' c X' =>
      (congrArg (ite _ · none) (TrL.strip_snoc rest k t X')).trans
        (apply_ite (Option.bind · _) _ _ none).symm

/-- invariants of the body handler loop: `seen` = addresses visited so far = keys of `subs`;
    outside them the full dict `X` and the remainder `rem` resolve alike -/
structure BodyLawInv (subs : TrL R) (seen : List String) (X rem : CML) : Prop where
  strip : subs.strip X = some rem
  seen_iff : ∀ a, (subs.find? a).isSome = seen.contains a
  find : ∀ a, seen.contains a = false → X.find? a = rem.find? a

theorem BodyLawInv.nil (X : CML) : BodyLawInv (.nil : TrL R) [] X X :=
  ⟨rfl, fun _ => rfl, fun _ _ => rfl⟩

theorem BodyLawInv.step {subs : TrL R} {seen : List String} {X rem' : CML} {addr : String}
    {c : CM} {t : Tr R} (h : BodyLawInv subs seen X (.cons addr c rem')) (ht : t.choices = some c) :
    BodyLawInv (subs.snoc addr t) (addr :: seen) X rem' := by
  refine ⟨?_, fun a => ?_, CML.find?_step h.find⟩
  · rw [TrL.strip_snoc, h.strip]
    exact if_pos ⟨rfl, ht⟩
  · rw [TrL.find?_snoc_isSome, h.seen_iff a, List.contains_cons, Bool.or_comm]
    rfl

theorem BodyLawInv.strip_snoc_none {subs : TrL R} {seen : List String} {X rem' : CML}
    {addr : String} {c : CM} {t : Tr R} (h : BodyLawInv subs seen X (.cons addr c rem'))
    (ht : t.choices ≠ some c) : (subs.snoc addr t).strip X = none :=
  (TrL.strip_snoc ..).trans ((congrArg (Option.bind · _) h.strip).trans (if_neg fun hc => ht hc.2))

end Traces

/-! ## hypotheses on the primitives -/

section PDHyp
variable {K : Type} [Field K]

/-- the support lists every value once and the mass vanishes outside it -/
structure PD.WF (pd : PD K) : Prop where
  nodup : ∀ d a, (pd.support d a).Nodup
  off : ∀ d a v, v ∉ pd.support d a → pd.pm d a v = 0

def PD.Normalised (pd : PD K) : Prop :=
  ∀ d a, sumK ((pd.support d a).map (pd.pm d a)) = 1

theorem sumK_indicator_fd {α : Type} [DecidableEq α] (l : List α) (hl : l.Nodup) (v0 : α)
    (f g : α → K) :
    sumK (l.map fun v => f v * (if v = v0 then g v else 0)) = if v0 ∈ l then f v0 * g v0 else 0 := by
  induction l with
  | nil => exact (if_neg List.not_mem_nil).symm
  | cons a l ih =>
    obtain ⟨ha, hl⟩ := List.nodup_cons.mp hl
    refine (congrArg (_ + ·) (ih hl)).trans ?_
    dsimp only
    by_cases h : a = v0
    · subst h
      rw [if_pos rfl, if_neg ha, if_pos List.mem_cons_self, add_zero]
    · rw [if_neg h, mul_zero, zero_add]
      exact if_congr ⟨List.mem_cons_of_mem _,
        fun hc => (List.mem_cons.mp hc).resolve_left (Ne.symm h)⟩ rfl rfl

theorem PD.WF.E_support {pd : PD K} (hpd : pd.WF) (d : Nat) (args : List Val) (v0 : Val)
    {β : Type} (T : Val → β) (φ : β → K) (A : Val → K)
    (h : ∀ v, φ (T v) = if v = v0 then A v else 0) :
    E ((pd.support d args).map fun v => (some (T v), pd.pm d args v)) (optK φ)
      = pd.pm d args v0 * A v0 := by
  dsimp only [E]
  rw [List.map_map]
  refine Eq.trans (congrArg sumK (List.map_congr_left fun v _ => congrArg (pd.pm d args v * ·) (h v)))
    ((sumK_indicator_fd _ (hpd.nodup d args) v0 (pd.pm d args) A).trans ?_)
  split
  · rfl
  · next hv => rw [hpd.off d args v0 hv, zero_mul]

end PDHyp

/-! ## the law -/

section Law
variable {K : Type} [Field K] {R : Type} [Zero R] [Add R] [Neg R]
variable (pd : PD K) (P : Prims R)

/-- body-level test function: the accumulated sub-traces spell out the dict `X` -/
def tstB (X : CML) (Ψ : Val → K) (r : TrL R × Val × R) : K :=
  if r.1.choices = some X then Ψ r.2.1 else 0

/-- sub-traces that already disagree with `X` stay in disagreement -/
theorem body_strip_none (body : Body) : ∀ (env : List Val) (subs : TrL R) (s : R) (X : CML)
    (Ψ : Val → K), subs.strip X = none →
    E (body.simD pd P env subs s) (optK (tstB X Ψ)) = 0 := by
  induction body using Body.list_induction with
  | ret e =>
    intro env subs s X Ψ h
    exact (E_pureO _ _).trans (if_neg fun hc => by
      rw [(TrL.choices_iff_strip _ _).mp hc] at h
      cases h)
  | call addr g es rest ih =>
    intro env subs s X Ψ h
    dsimp only [Body.simD]
    split
    · exact E_failO _
    · refine (E_bindO _ _ _).trans (E_eq_zero_fd _ _ fun o => ?_)
      cases o with
      | none => rfl
      | some t => exact ih _ _ _ _ _ ((TrL.strip_snoc ..).trans (congrArg (Option.bind · _) h))

/-- value reported by a list of lane assessments -/
def massOfL (o : Option (List (K × Val))) (Ψ : List Val → K) : K :=
  match o with
  | none => 0
  | some rs => prodK (rs.map (·.1)) * Ψ (rs.map (·.2))

/-- value reported by a run of step assessments -/
def massOfS (o : Option (List (K × Val) × Val)) (Ψ : List Val → Val → K) : K :=
  match o with
  | none => 0
  | some r => prodK (r.1.map (·.1)) * Ψ (r.1.map (·.2)) r.2

theorem massOf_bind (o : Option (K × Val)) (k : Val → Option (K × Val)) (Ψ : Val → K) :
    massOf (o.bind fun pr => (k pr.2).bind fun qr => some (pr.1 * qr.1, qr.2)) Ψ
      = massOf o fun r => massOf (k r) Ψ := by
  cases o with
  | none => rfl
  | some pr =>
    cases h : k pr.2 with
    | none => simp only [Option.bind_some, h, Option.bind_none, massOf, mul_zero]
    | some qr => simp only [Option.bind_some, h, massOf, mul_assoc]

theorem massOfL_cons (h : Nat → CM → Option (K × Val)) (i : Nat) (y : CM) (ys : List CM)
    (Ψ : List Val → K) :
    massOfL (forLanes h i (y :: ys)) Ψ
      = massOf (h i y) fun r => massOfL (forLanes h (i + 1) ys) fun rs => Ψ (r :: rs) := by
  simp only [forLanes, Option.bind_eq_bind, Option.pure_def]
  cases h i y with
  | none => rfl
  | some b =>
    cases forLanes h (i + 1) ys with
    | none => exact (mul_zero _).symm
    | some bs => simp only [massOf, massOfL, Option.bind_some, List.map_cons, prodK, mul_assoc]

theorem massOfS_cons (H : Val → Nat → CM → Option (K × Val)) (c : Val) (i : Nat) (y : CM)
    (ys : List CM) (Ψ : List Val → Val → K) :
    massOfS (forSteps (fun c i x => (H c i x).bind fun pr => some ((pr.1, pr.2.snd), pr.2.fst))
        c i (y :: ys)) Ψ
      = massOf (H c i y) fun r => massOfS (forSteps
          (fun c i x => (H c i x).bind fun pr => some ((pr.1, pr.2.snd), pr.2.fst))
          r.fst (i + 1) ys) fun rs c' => Ψ (r.snd :: rs) c' := by
  simp only [forSteps, Option.bind_eq_bind, Option.pure_def]
  cases H c i y with
  | none => rfl
  | some b =>
    simp only [Option.bind_some, massOf]
    cases forSteps (fun c i x => (H c i x).bind fun pr => some ((pr.1, pr.2.snd), pr.2.fst))
        b.2.fst (i + 1) ys with
    | none => exact (mul_zero _).symm
    | some bs => simp only [massOfS, Option.bind_some, List.map_cons, prodK, mul_assoc]

omit [Zero R] [Add R] [Neg R] in
theorem E_choices_cons {γ β : Type} (d : FinDist K (Option γ)) (ch : β → Option CM) (b : β)
    (x : CM) (xs : List CM) (bs : γ → List β) (A : γ → K) :
    E d (optK fun q => if (b :: bs q).map ch = (x :: xs).map some then A q else 0)
      = if ch b = some x
          then E d (optK fun q => if (bs q).map ch = xs.map some then A q else 0) else 0 := by
  split
  · next hb => simp only [List.map_cons, hb, List.cons.injEq, true_and]
  · next hb =>
    refine (congrArg (fun F => E _ (optK F)) (funext fun q => if_neg fun hc => hb ?_)).trans
      (E_optK_zero _)
    exact (List.cons.inj hc).1

omit [Zero R] [Add R] [Neg R] in
theorem lanes_law (f : Nat → Unit → FinDist K (Option (Tr R))) (h : Nat → CM → Option (K × Val))
    (xs : List CM)
    (hf : ∀ i x, x ∈ xs → ∀ ψ, E (f i ()) (optK (choicesAre x ψ)) = massOf (h i x) ψ) :
    ∀ (i : Nat) (Ψ : List Val → K),
      E (forLanesD f i (List.replicate xs.length ()))
        (optK fun ts => if ts.map Tr.choices = xs.map some then Ψ (ts.map Tr.retval) else 0)
      = massOfL (forLanes h i xs) Ψ := by
  induction xs with
  | nil =>
    intro i Ψ
    exact (E_pureO _ _).trans (one_mul _).symm
  | cons x xs ih =>
    intro i Ψ
    have ih' := ih fun i y hy => hf i y (List.mem_cons_of_mem _ hy)
    refine (E_forLanesD_cons _ _ _ _ _).trans
      ((congrArg (fun F => E _ (optK F)) (funext fun t => ?_)).trans
        ((hf i x List.mem_cons_self _).trans (massOfL_cons h i x xs Ψ).symm))
    exact (E_choices_cons _ Tr.choices t x xs id _).trans
      (if_congr Iff.rfl (ih' (i + 1) fun rs => Ψ (t.retval :: rs)) rfl)

omit [Zero R] [Add R] [Neg R] in
theorem steps_law (F : Val → Nat → FinDist K (Option (Tr R)))
    (H : Val → Nat → CM → Option (K × Val)) (xs : List CM)
    (hF : ∀ c i x, x ∈ xs → ∀ ψ, E (F c i) (optK (choicesAre x ψ)) = massOf (H c i x) ψ) :
    ∀ (c : Val) (i : Nat) (Ψ : List Val → Val → K),
      E (forStepsD (fun c i (_ : Unit) => bindO (F c i) fun t => pureO (t, t.retval.fst)) c i
          (List.replicate xs.length ()))
        (optK fun r => if r.1.map Tr.choices = xs.map some
          then Ψ (r.1.map fun t => t.retval.snd) r.2 else 0)
      = massOfS (forSteps (fun c i x => (H c i x).bind fun pr => some ((pr.1, pr.2.snd), pr.2.fst))
          c i xs) Ψ := by
  induction xs with
  | nil =>
    intro c i Ψ
    exact (E_pureO _ _).trans (one_mul _).symm
  | cons x xs ih =>
    intro c i Ψ
    have ih' := ih fun c i y hy => hF c i y (List.mem_cons_of_mem _ hy)
    refine (E_forStepsD_cons _ _ _ _ _ _).trans ((E_bindO_pureO _ _ _).trans
      ((congrArg (fun F => E _ (optK F)) (funext fun t => ?_)).trans
        ((hF c i x List.mem_cons_self _).trans (massOfS_cons H c i x xs Ψ).symm)))
    exact (E_choices_cons _ Tr.choices t x xs (fun q : List (Tr R) × Val => q.1) _).trans
      (if_congr Iff.rfl (ih' t.retval.fst (i + 1) fun rs c' => Ψ (t.retval.snd :: rs) c') rfl)

/-! ### what the law needs of the hidden branch of a Cond

  A Cond trace draws both branches and exposes the merged choice map; the draws of the branch that
  is not selected are marginalised out.  For that the hidden branch must be a probability
  distribution over traces with a choice map of the static shape, and `assessP` must not raise on
  maps of that shape (`Cond.assess` evaluates both branches).  Proved from normalised primitives,
  `noCollide` and `condOK` in `GF.total_of_noCollide_condOK`. -/

def GF.Total (g : GF) : Prop :=
  (∀ args, mass (g.simD pd P args) = 1) ∧
  (∀ args, ∀ o ∈ supp (g.simD pd P args), ∃ t, o = some t ∧ t.choices.map CM.skel = g.skel) ∧
  (∀ x args, g.skel = some x.skel → (g.assessP pd x args).isSome)

mutual
  def GF.LawHyp : GF → Prop
    | .dist _ => True
    | .fn body => body.LawHyp
    | .vmap g _ _ => g.LawHyp
    | .scan g _ => g.LawHyp
    | .cond t f => t.LawHyp ∧ f.LawHyp ∧ t.skel = f.skel ∧ t.Total pd P ∧ f.Total pd P
  def Body.LawHyp : Body → Prop
    | .ret _ => True
    | .call _ g _ rest => g.LawHyp ∧ rest.LawHyp
end

theorem condFree_lawHyp_aux :
    (∀ g : GF, g.condFree = true → g.LawHyp pd P) ∧ ∀ b : Body, b.condFree = true → b.LawHyp pd P := by
  refine GF.rec_both (fun _ _ => trivial) (fun _ ih h => ih h) (fun _ _ _ ih h => ih h)
    (fun _ _ ih h => ih h) (fun _ _ _ _ h => Bool.noConfusion h) (fun _ _ => trivial)
    fun _ _ _ _ ihg ihr h => ?_
  have h := Bool.and_eq_true_iff.mp h
  exact ⟨ihg h.1, ihr h.2⟩

theorem condFree_lawHyp_gf : (g : GF) → g.condFree = true → g.LawHyp pd P :=
  (condFree_lawHyp_aux pd P).1

theorem condFree_lawHyp_body : (b : Body) → b.condFree = true → b.LawHyp pd P :=
  (condFree_lawHyp_aux pd P).2

theorem GF.Total.const {g : GF} (hg : g.Total pd P) (args : List Val) (C : K) :
    E (g.simD pd P args) (optK fun _ => C) = C := by
  refine (E_congr_supp _ _ (fun _ => C) fun o ho => ?_).trans ((E_const _ _).trans ?_)
  · obtain ⟨t, rfl, -⟩ := hg.2.1 args o ho
    rfl
  · rw [hg.1, one_mul]

def GF.Law (g : GF) : Prop :=
  ∀ (args : List Val) (x : CM) (ψ : Val → K), g.skel = some x.skel →
    E (g.simD pd P args) (optK (choicesAre x ψ)) = massOf (g.assessP pd x args) ψ

theorem law_cond (t f : GF) (hsk : t.skel = f.skel) (ht : t.Total pd P) (hf : f.Total pd P)
    (Lt : t.Law pd P) (Lf : f.Law pd P) (args : List Val) (x : CM) (ψ : Val → K)
    (hs : (GF.cond t f).skel = some x.skel) :
    E ((GF.cond t f).simD pd P args) (optK (choicesAre x ψ))
      = massOf ((GF.cond t f).assessP pd x args) ψ := by
  have hts := GF.skel_cond hsk hs
  have hfs : f.skel = some x.skel := hsk ▸ hts
  obtain ⟨p, hp⟩ := Option.isSome_iff_exists.mp (ht.2.2 x (args.drop 1) hts)
  obtain ⟨q, hq⟩ := Option.isSome_iff_exists.mp (hf.2.2 x (args.drop 1) hfs)
  have hLt := Lt (args.drop 1) x ψ hts
  have hLf := Lf (args.drop 1) x ψ hfs
  rw [hp] at hLt
  rw [hq] at hLf
  -- both branch traces have a choice map of the shape of `x`: the merged map is the selected one
  have key : ∀ a, some a ∈ supp (t.simD pd P (args.drop 1)) →
      ∀ b, some b ∈ supp (f.simD pd P (args.drop 1)) → ∀ c : Bool,
      choicesAre x ψ (Tr.cond c a b) = if c then choicesAre x ψ a else choicesAre x ψ b := by
    intro a ha b hb c
    obtain ⟨_, ha', hsa⟩ := ht.2.1 _ _ ha
    obtain ⟨_, hb', hsb⟩ := hf.2.1 _ _ hb
    cases ha'
    cases hb'
    obtain ⟨xa, hxa, hxas⟩ := exists_choices_skel_eq (hsa.trans hts)
    obtain ⟨xb, hxb, hxbs⟩ := exists_choices_skel_eq (hsb.trans hfs)
    have hch : (Tr.cond c a b).choices = some (if c then xa else xb) := by
      dsimp only [Tr.choices]
      rw [hxa, hxb]
      exact CM.mergeCheck_same c xa xb (hxas.trans hxbs.symm)
    cases c with
    | true =>
      exact (if_congr (by rw [hch, hxa]; exact Iff.rfl) rfl rfl :
        choicesAre x ψ (Tr.cond true a b) = choicesAre x ψ a)
    | false =>
      exact (if_congr (by rw [hch, hxb]; exact Iff.rfl) rfl rfl :
        choicesAre x ψ (Tr.cond false a b) = choicesAre x ψ b)
  dsimp only [GF.simD, GF.assessP]
  rw [hp, hq]
  refine (E_bindO _ _ _).trans ?_
  generalize (args.getD 0 .nil).truthy = c
  cases c with
  | true =>
    refine Eq.trans (E_optK_congr _ _ _ fun a ha => ?_) hLt
    refine (E_bindO _ _ _).trans
      (Eq.trans (E_optK_congr _ _ (fun _ => choicesAre x ψ a) fun b hb => ?_) (hf.const pd P _ _))
    exact (E_pureO _ _).trans (key a ha b hb true)
  | false =>
    refine Eq.trans (E_optK_congr _ _ (fun _ => massOf (some q) ψ) fun a ha => ?_)
      (ht.const pd P _ _)
    refine (E_bindO _ _ _).trans (Eq.trans (E_optK_congr _ _ _ fun b hb => ?_) hLf)
    exact (E_pureO _ _).trans (key a ha b hb false)

theorem law_aux (hpd : pd.WF) :
    (∀ g : GF, g.LawHyp pd P → g.Law pd P) ∧
    ∀ body : Body, body.LawHyp pd P → ∀ (env : List Val) (subs : TrL R) (s : R) (X rem : CML)
      (seen : List String) (Ψ : Val → K), BodyLawInv subs seen X rem →
      body.skel = some rem.skel →
      E (body.simD pd P env subs s) (optK (tstB X Ψ)) = massOf (body.assessP pd X env seen) Ψ := by
  refine GF.rec_both ?_ ?_ ?_ ?_ ?_ ?_ ?_
  · intro d _ args x ψ hs
    obtain ⟨v0, rfl⟩ := CM.skel_leaf (Option.some.inj hs)
    exact hpd.E_support d args v0 (fun v => Tr.leaf v (-(P.lp d args v))) _ ψ
      fun v => if_congr CM.some_leaf_eq_iff rfl rfl
  · intro body ih hg args x ψ hs
    obtain ⟨X, rfl, hbs⟩ := GF.skel_fn hs
    refine (E_bindO_pureO _ _ _).trans (Eq.trans
      (congrArg (fun F => E _ (optK F)) (funext fun r => if_congr
        ((Option.map_injective (f := CM.node) fun _ _ => CM.node.inj).eq_iff (b := some X)) rfl rfl))
      (ih hg args .nil 0 X X [] ψ (.nil X) hbs))
  · intro g axes n ih hg args x ψ hs
    obtain ⟨l, rfl, hl1, rfl, hl3⟩ := skelLanes_lanes hs
    refine (E_bindO_pureO _ _ _).trans (Eq.trans (congrArg (fun F => E _ (optK F))
      (funext fun ts => if_congr (TrL.choices_ofList_lanes hl1 ts)
        (congrArg ψ (TrL.retvals_ofList ts)) rfl)) ?_)
    refine (lanes_law (fun i (_ : Unit) => g.simD pd P (laneArgs axes args i))
      (fun i xi => g.assessP pd xi (laneArgs axes args i)) l.toList
      (fun i y hy ψ' => ih hg _ y ψ' (hl3 y hy)) 0 fun rs => ψ (Val.ofList rs)).trans ?_
    dsimp only [GF.assessP]
    rw [(lenIs_eq_some_iff (u := ())).mpr rfl]
    cases forLanes (fun i xi => g.assessP pd xi (laneArgs axes args i)) 0 l.toList <;> rfl
  · intro g n ih hg args x ψ hs
    obtain ⟨l, rfl, hl1, rfl, hl3⟩ := skelLanes_lanes hs
    refine (E_bindO_pureO _ _ _).trans (Eq.trans (congrArg (fun F => E _ (optK F))
      (funext fun r => if_congr (TrL.choices_ofList_lanes hl1 r.1)
        (congrArg (fun v => ψ (Val.pair r.2 v)) (TrL.outs_ofList r.1)) rfl)) ?_)
    refine (steps_law (fun c i => g.simD pd P [c, (args.getD 1 .nil).nth i])
      (fun c i xi => g.assessP pd xi [c, (args.getD 1 .nil).nth i]) l.toList
      (fun c i y hy ψ' => ih hg _ y ψ' (hl3 y hy)) (args.getD 0 .nil) 0
      fun rs c' => ψ (Val.pair c' (Val.ofList rs))).trans ?_
    dsimp only [GF.assessP]
    rw [(lenIs_eq_some_iff (u := ())).mpr rfl]
    cases forSteps (fun c i xi => (g.assessP pd xi [c, (args.getD 1 .nil).nth i]).bind
        fun pr => some ((pr.1, pr.2.snd), pr.2.fst)) (args.getD 0 .nil) 0 l.toList <;> rfl
  · intro t f iht ihf hg args x ψ hs
    exact law_cond pd P t f hg.2.2.1 hg.2.2.2.1 hg.2.2.2.2 (iht hg.1) (ihf hg.2.1) args x ψ hs
  · intro e _ env subs s X rem seen Ψ hinv hs
    exact (E_pureO _ _).trans ((if_pos ((TrL.choices_iff_strip _ _).mpr
      (hinv.strip.trans (congrArg some (CML.skel_eq_nil (Option.some.inj hs).symm))))).trans
      (one_mul _).symm)
  · intro addr g es rest ihg ihr hg env subs s X rem seen Ψ hinv hs
    obtain ⟨c, rem', rfl, hgs, hrs⟩ := Body.skel_call hs
    dsimp only [Body.simD, Body.assessP]
    rw [hinv.seen_iff addr]
    cases hseen : seen.contains addr with
    | true => exact E_failO _
    | false =>
      rw [if_neg Bool.false_ne_true, if_neg Bool.false_ne_true, hinv.find addr hseen,
        CML.find?_cons_self]
      dsimp only
      refine (E_bindO _ _ _).trans ?_
      have key : ∀ t : Tr R, E (rest.simD pd P (env ++ [t.retval]) (subs.snoc addr t)
            (s + t.score)) (optK (tstB X Ψ))
          = choicesAre c (fun r => massOf (rest.assessP pd X (env ++ [r]) (addr :: seen)) Ψ) t := by
        intro t
        dsimp only [choicesAre]
        split
        · next ht => exact ihr hg.2 _ _ _ X rem' (addr :: seen) Ψ (hinv.step ht) hrs
        · next ht =>
          exact body_strip_none pd P rest _ _ _ _ _ (hinv.strip_snoc_none ht)
      rw [funext key, ihg hg.1 _ c _ hgs]
      exact (massOf_bind (g.assessP pd c (es.map (·.eval env)))
        (fun r => rest.assessP pd X (env ++ [r]) (addr :: seen)) Ψ).symm

theorem law_gf (hpd : pd.WF) : (g : GF) → g.LawHyp pd P → g.Law pd P :=
  (law_aux pd P hpd).1

theorem law_body (hpd : pd.WF) : (body : Body) → body.LawHyp pd P → ∀ (env : List Val)
      (subs : TrL R) (s : R) (X rem : CML) (seen : List String) (Ψ : Val → K),
      BodyLawInv subs seen X rem → body.skel = some rem.skel →
      E (body.simD pd P env subs s) (optK (tstB X Ψ)) = massOf (body.assessP pd X env seen) Ψ :=
  (law_aux pd P hpd).2

end Law

end Genjax

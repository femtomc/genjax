import GenjaxModel.Proofs.GfiCohInv
import Mathlib.Data.List.Forall2
/-!
  The weight of `update` is the difference of the scores of the old and the new trace
  (`weightOK_all`).  `Tr.sameChecks`: no Cond switches its branch.
-/
namespace Genjax
variable {R : Type}

/-! ### traces whose Cond nodes took the same branches -/

theorem TrL.sameChecksPos_forall₂ : ∀ {a b : TrL R}, Tr.sameChecks.TrL.sameChecksPos a b →
    List.Forall₂ Tr.sameChecks a.toList b.toList
  | .nil, .nil, _ => .nil
  | .cons _ _ _, .cons _ _ _, h => .cons h.1 (TrL.sameChecksPos_forall₂ h.2)

theorem TrL.sameChecks_of_find {old b : TrL R} (h : Tr.sameChecks.TrL.sameChecks old b)
    {k : String} {t t' : Tr R} (hf : old.find? k = some t) (hb : b.find? k = some t') :
    Tr.sameChecks t t' := by
  induction old using TrL.list_induction with
  | nil => cases hf
  | cons k' t0 rest ih =>
    unfold TrL.find? at hf
    split at hf
    · cases hf
      subst_vars
      have := h.1
      rwa [hb] at this
    · exact ih h.2 hf

variable [AddCommGroup R] (P : Prims R) (cfg : Cfg)

/-! ### sums of weights over a loop -/

theorem sumR_map_add {α : Type} (u v : α → R) (l : List α) :
    sumR (l.map fun a => u a + v a) = sumR (l.map u) + sumR (l.map v) := by
  induction l with
  | nil => exact (add_zero 0).symm
  | cons a l ih =>
    simp only [List.map_cons, sumR, ih]
    exact add_add_add_comm _ _ _ _

theorem sumR_map_neg {α : Type} (u : α → R) (l : List α) :
    sumR (l.map fun a => -u a) = -sumR (l.map u) := by
  induction l with
  | nil => exact neg_zero.symm
  | cons a l ih => simp only [List.map_cons, sumR, ih, neg_add]

/-- the weights of a run add up as their lane-wise descriptions do; the description of a lane may
    use that its input and its pair of input and output occur in the run -/
theorem sumR_run {α β : Type} {run : α → β → Prop} {l : List α} {bs : List β} {w v : β → R} {u : α → R}
    (hrun : List.Forall₂ run l bs)
    (hw : ∀ a b, a ∈ l → (a, b) ∈ l.zip bs → run a b → w b = u a + v b) :
    sumR (bs.map w) = sumR (l.map u) + sumR (bs.map v) := by
  induction hrun with
  | nil => exact (add_zero 0).symm
  | cons hab _ ih =>
    simp only [List.map_cons, sumR, hw _ _ List.mem_cons_self List.mem_cons_self hab,
      ih fun a b ha hb => hw a b (List.mem_cons_of_mem _ ha) (List.mem_cons_of_mem _ hb)]
    exact add_add_add_comm _ _ _ _

/-! ### the weight of a Cond node -/

/-- without a branch switch the correction of `Cond.update` / `Cond.regenerate` vanishes: the weight
    has the corrected form in every variant -/
theorem condWeight_eq {cOld : Bool} {a b : Tr R} {args : List Val} {wa wb : R}
    (h : cfg.condSwitchCorrection = true ∨ cOld = (args.getD 0 .nil).truthy) :
    condWeight cfg cOld a b args wa wb =
      (if (args.getD 0 .nil).truthy then wa else wb) +
        ((if cOld then a.score else b.score) + -(if (args.getD 0 .nil).truthy then a.score else b.score)) := by
  unfold condWeight
  rcases h with h | rfl
  · rw [if_pos h]
  · split
    · rfl
    · rw [add_neg_cancel, add_zero]

/-! ### `update` -/

theorem Body.update_find {b : Body} {old : TrL R} {x : CML} {env : List Val} {subs : TrL R} {s w : R}
    {d : CML} {subsF : TrL R} {r : Val} {sF wF : R} {dF : CML}
    (h : b.update P cfg old x env subs s w d = some (subsF, r, sF, wF, dF)) :
    ∀ k t, subs.find? k = some t → subsF.find? k = some t :=
  (body_update_inv P cfg b old x env subs s w d subsF r sF wF dF h).1

def WeightOK (g : GF) : Prop :=
  ∀ {args0 : List Val} {t : Tr R}, g.Coh P args0 t →
    ∀ {x : Option CM} {args : List Val} {t' : Tr R} {w : R} {d : Option CM},
      g.update P cfg t x args = some (t', w, d) →
      (cfg.condSwitchCorrection = true ∨ Tr.sameChecks t t') → w = t.score + -t'.score

def BodyWeightOK (b : Body) : Prop :=
  ∀ {env0 : List Val} {old : TrL R}, b.Coh P env0 old →
    ∀ {x : CML} {env : List Val} {subs : TrL R} {s w : R} {d : CML}
      {subsF : TrL R} {r : Val} {sF wF : R} {dF : CML},
      b.update P cfg old x env subs s w d = some (subsF, r, sF, wF, dF) →
      (cfg.condSwitchCorrection = true ∨ Tr.sameChecks.TrL.sameChecks old subsF) →
      wF + sF = w + s + b.scoreOf old

theorem update_sum {g : GF} (ih : WeightOK P cfg g) {old : TrL R} {xs : List (Option CM)}
    {rs : List (Upd R)} (hlen : old.toList.length = xs.length)
    (hrun : List.Forall₂ (fun p b => ∃ a, g.update P cfg p.1 p.2 a = some b) (old.toList.zip xs) rs)
    (hcoh : ∀ t ∈ old.toList, ∃ a, g.Coh P a t)
    (hs : cfg.condSwitchCorrection = true ∨
      Tr.sameChecks.TrL.sameChecksPos old (TrL.ofList (rs.map (·.1)))) :
    sumR (rs.map (·.2.1)) = old.scoreSum + -(TrL.ofList (rs.map (·.1))).scoreSum := by
  have hfst : (old.toList.zip xs).map Prod.fst = old.toList := List.map_fst_zip (Nat.le_of_eq hlen)
  have hs' := hs.imp_right fun h => TrL.sameChecksPos_forall₂ h
  rw [TrL.toList_ofList, ← hfst, List.forall₂_map_left_iff, List.forall₂_map_right_iff] at hs'
  rw [TrL.scoreSum_eq, TrL.scoreSum_ofList, ← hfst, List.map_map, List.map_map, ← sumR_map_neg]
  refine sumR_run hrun fun p b hp hpb ⟨a, hu⟩ => ?_
  obtain ⟨a0, hc⟩ := hcoh p.1 (hfst ▸ List.mem_map_of_mem hp)
  exact ih hc hu (hs'.imp_right fun h => (List.forall₂_zip h hpb :))

theorem weightOK_all (g : GF) : WeightOK P cfg g := by
  refine GF.rec (motive_1 := fun g => WeightOK P cfg g) (motive_2 := fun b => BodyWeightOK P cfg b)
    ?_ ?_ ?_ ?_ ?_ ?_ ?_ g
  · intro d args0 t ht x args t' w dd h hs
    obtain ⟨vOld, sOld, v, rfl, -, rfl, rfl, -⟩ := update_dist_inv P cfg h
    show _ = sOld + - -_
    rw [neg_neg, add_comm]
  · intro body ihb args0 t ht x args t' w dd h hs
    obtain ⟨old, r0, s0, kids, subs, r, s, d, rfl, -, hb, rfl, -⟩ := update_fn_inv P cfg h
    obtain ⟨hcoh, -, rfl⟩ := ht
    have e := ihb hcoh hb hs
    rw [zero_add, zero_add] at e
    exact eq_add_neg_of_add_eq e
  · intro g axes n ih args0 t ht x args t' w dd h hs
    obtain ⟨old, xs, rs, rfl, hlen, hxs, hrs, rfl, rfl, -⟩ := update_vmap_inv P cfg h
    exact update_sum P cfg ih (hlen.trans (laneConstraints_length hxs).symm)
      (forLanes_forall₂ (fun _ _ _ hu => ⟨_, hu⟩) hrs) (lanesCoh_forall ht.2) hs
  · intro g n ih args0 t ht x args t' w dd h hs
    obtain ⟨old, c0, xs, rs, c, rfl, hlen, hxs, hrs, rfl, rfl, -⟩ := update_scan_inv P cfg h
    exact update_sum P cfg ih (hlen.trans (laneConstraints_length hxs).symm)
      (forSteps_forall₂ (fun _ _ _ _ _ hu => ⟨_, (updStep_some P cfg hu).1⟩) hrs)
      (stepsCoh_forall ht.2) hs
  · intro tg fg iht ihf args0 t ht x args t' w dd h hs
    obtain ⟨cOld, a, b, xq, a', wa, da, b', wb, db, rfl, -, ha, hb, rfl, rfl, -⟩ :=
      update_cond_inv P cfg h
    obtain ⟨-, hca, hcb⟩ := ht
    show _ = _ + -(if (args.getD 0 .nil).truthy then a'.score else b'.score)
    rw [condWeight_eq cfg (hs.imp_right (·.1)), iht hca ha (hs.imp_right (·.2.1)),
      ihf hcb hb (hs.imp_right (·.2.2))]
    cases (args.getD 0 Val.nil).truthy <;> simp only [Bool.false_eq_true, if_true, if_false] <;> abel
  · intro e env0 old _ x env subs s w d subsF r sF wF dF h _
    cases h
    exact (add_zero _).symm
  · intro addr g es rest ihg ihr env0 old hcoh x env subs s w d subsF r sF wF dF h hs
    obtain ⟨-, t0, hfind, hg, hrest⟩ := hcoh
    obtain ⟨hnone, sub, xsub, t1, w1, d1, hsub, -, h1, h2⟩ := update_call_inv P cfg h
    cases hfind.symm.trans hsub
    have hfF : subsF.find? addr = some t1 :=
      Body.update_find P cfg h2 addr t1 (TrL.find?_snoc_self hnone)
    have hs1 : cfg.condSwitchCorrection = true ∨ Tr.sameChecks t0 t1 :=
      hs.imp_right fun hs => TrL.sameChecks_of_find hs hfind hfF
    rw [Body.scoreOf_call hfind, ihr hrest h2 hs, ihg hg h1 hs1]
    abel

/-- Specification variant of Cond.update/regenerate (`condSwitchCorrection = true`):
    the update weight is `score old - score new`, also across a Cond branch switch. -/
theorem update_weight_spec (hc : cfg.condSwitchCorrection = true)
    (g : GF) (args0 : List Val) (t : Tr R) (ht : g.Coh P args0 t)
    (x : Option CM) (args : List Val) (t' : Tr R) (w : R) (d : Option CM)
    (h : g.update P cfg t x args = some (t', w, d)) : w = t.score + -t'.score :=
  weightOK_all P cfg g ht h (Or.inl hc)

/-- any variant of the code: the same statement when no Cond switches -/
theorem update_weight_noswitch
    (g : GF) (args0 : List Val) (t : Tr R) (ht : g.Coh P args0 t)
    (x : Option CM) (args : List Val) (t' : Tr R) (w : R) (d : Option CM)
    (h : g.update P cfg t x args = some (t', w, d)) (hs : Tr.sameChecks t t') :
    w = t.score + -t'.score :=
  weightOK_all P cfg g ht h (Or.inr hs)

theorem generate_none_weight (g : GF) (args : List Val) (t : Tr R) (w : R)
    (h : g.generate P cfg none args = some (t, w)) : w = 0 :=
  (generate_none_simulate P cfg g args t w h).2

end Genjax

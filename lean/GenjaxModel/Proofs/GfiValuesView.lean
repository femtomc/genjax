import GenjaxModel.Proofs.GfiValuesBase
/-!
  Shared by the value-level theorems for all operations (C02, C03, C04):

  * `Tr.valAt t p`, the value a trace shows at a path, read off the trace itself.  It is what the
    trace's choice map holds there (`Tr.choices_leafAt`), but it is defined by equations that need
    no hypothesis about `Tr.choices`, and also for a Cond trace whose branch maps do not merge.
  * `LanesRun`, the loop of a Vmap or Scan operation read lane by lane / step by step.
  * `SitesInv`, the invariant of a handler loop over the call sites of a body: what the loop leaves
    in the sub-trace map and in the discard at every address, proved once for all handlers.
-/
namespace Genjax
variable {R : Type}

/-! ## the value at a path of a trace -/

mutual
  def Tr.valAt : Tr R → Path → Option Val
    | .leaf v _, [] => some v
    | .leaf _ _, _ :: _ => none
    | .fn subs _ _, .key k :: p => subs.valAtKey k p
    | .fn _ _ _, _ => none
    | .vec lanes, .idx i :: p => lanes.valAtIdx i p
    | .vec _, _ => none
    | .scan steps _, .idx i :: p => steps.valAtIdx i p
    | .scan _ _, _ => none
    | .cond c a b, p => mergeLeaf c (a.valAt p) (b.valAt p)
  def TrL.valAtKey : TrL R → String → Path → Option Val
    | .nil, _, _ => none
    | .cons k t rest, a, p => if a = k then t.valAt p else rest.valAtKey a p
  def TrL.valAtIdx : TrL R → Nat → Path → Option Val
    | .nil, _, _ => none
    | .cons _ t _, 0, p => t.valAt p
    | .cons _ _ rest, i + 1, p => rest.valAtIdx i p
end

theorem TrL.valAtKey_eq (l : TrL R) (k : String) (p : Path) :
    l.valAtKey k p = (l.find? k).bind (·.valAt p) := by
  induction l using TrL.list_induction with
  | nil => rfl
  | cons k' t rest ih =>
    show (if k = k' then t.valAt p else rest.valAtKey k p) =
      (if k = k' then some t else rest.find? k).bind (·.valAt p)
    split
    · rfl
    · exact ih

theorem TrL.valAtIdx_eq (l : TrL R) : ∀ (i : Nat) (p : Path),
    l.valAtIdx i p = (l.toList[i]?).bind (·.valAt p) := by
  induction l using TrL.list_induction with
  | nil => exact fun _ _ => rfl
  | cons _ _ rest ih =>
    intro i p
    cases i with
    | zero => rfl
    | succ i => exact ih i p

theorem Tr.valAt_fn_key (subs : TrL R) (r : Val) (s : R) (a : String) (p : Path) :
    (Tr.fn subs r s).valAt (.key a :: p) = (subs.find? a).bind (·.valAt p) :=
  TrL.valAtKey_eq subs a p

theorem Tr.valAt_vec_idx (ts : List (Tr R)) (i : Nat) (p : Path) :
    (Tr.vec (TrL.ofList ts)).valAt (.idx i :: p) = (ts[i]?).bind (·.valAt p) :=
  (TrL.valAtIdx_eq _ i p).trans (by rw [TrL.toList_ofList])

theorem Tr.valAt_scan_eq_vec (l : TrL R) (c : Val) (p : Path) :
    (Tr.scan l c).valAt p = (Tr.vec l).valAt p := by
  rcases p with _ | ⟨_ | _, _⟩ <;> rfl

theorem getElem?_map_some {α β : Type} {f : α → β} {l : List α} {i : Nat} {b : β}
    (h : (l.map f)[i]? = some b) : ∃ a, l[i]? = some a ∧ f a = b :=
  Option.map_eq_some_iff.mp (List.getElem?_map ▸ h)

theorem Tr.valAt_vec {ts : List (Tr R)} {q : Path} {v : Val}
    (h : (Tr.vec (TrL.ofList ts)).valAt q = some v) :
    ∃ i p, q = .idx i :: p ∧ ∃ ti, ts[i]? = some ti ∧ ti.valAt p = some v := by
  rcases q with _ | ⟨_ | i, p⟩
  · cases h
  · cases h
  · rw [Tr.valAt_vec_idx] at h
    exact ⟨i, p, rfl, Option.bind_eq_some_iff.mp h⟩

theorem Tr.valAt_scan {ts : List (Tr R)} {c : Val} {q : Path} {v : Val}
    (h : (Tr.scan (TrL.ofList ts) c).valAt q = some v) :
    ∃ i p, q = .idx i :: p ∧ ∃ ti, ts[i]? = some ti ∧ ti.valAt p = some v :=
  Tr.valAt_vec ((Tr.valAt_scan_eq_vec _ c q).symm.trans h)

theorem Tr.choices_leafAt (t : Tr R) : ∀ y, t.choices = some y → ∀ p, y.leafAt p = t.valAt p := by
  refine Tr.rec (motive_1 := fun t => ∀ y, t.choices = some y → ∀ p, y.leafAt p = t.valAt p)
    (motive_2 := fun l => ∀ xl, l.choices = some xl →
      (∀ k p, xl.leafAtKey k p = l.valAtKey k p) ∧ (∀ i p, xl.leafAtIdx i p = l.valAtIdx i p))
    ?_ ?_ ?_ ?_ ?_ ?_ ?_ t
  · intro v _ y h p
    cases h
    cases p <;> rfl
  · intro subs _ _ ih y h p
    obtain ⟨xl, hxl, rfl⟩ := Option.map_eq_some_iff.mp h
    rcases p with _ | ⟨k | _, p⟩
    · rfl
    · exact (ih xl hxl).1 k p
    · rfl
  · intro lanes ih y h p
    obtain ⟨xl, hxl, rfl⟩ := Option.map_eq_some_iff.mp h
    rcases p with _ | ⟨_ | i, p⟩
    · rfl
    · rfl
    · exact (ih xl hxl).2 i p
  · intro steps _ ih y h p
    obtain ⟨xl, hxl, rfl⟩ := Option.map_eq_some_iff.mp h
    rcases p with _ | ⟨_ | i, p⟩
    · rfl
    · rfl
    · exact (ih xl hxl).2 i p
  · intro c a b iha ihb y h p
    obtain ⟨ya, hya, h⟩ := Option.bind_eq_some_iff.mp h
    obtain ⟨yb, hyb, hm⟩ := Option.bind_eq_some_iff.mp h
    rw [CM.mergeCheck_leafAt c ya yb y hm p, iha ya hya p, ihb yb hyb p]
    rfl
  · intro xl h
    cases h
    exact ⟨fun _ _ => rfl, fun _ _ => rfl⟩
  · intro k' t rest iht ihr xl h
    obtain ⟨c, r, hc, hr, rfl⟩ := TrL.choices_cons.mp h
    refine ⟨fun k p => ?_, fun i p => ?_⟩
    · show (if k = k' then c.leafAt p else r.leafAtKey k p) = _
      rw [iht c hc p, (ihr r hr).1 k p]
      rfl
    · cases i with
      | zero => exact iht c hc p
      | succ i => exact (ihr r hr).2 i p

theorem Option.eq_of_isSome_eq {α : Type} {a b : Option α} (h : a.isSome = b.isSome)
    (hv : ∀ x y, a = some x → b = some y → x = y) : a = b := by
  cases a with
  | none => cases b with
    | none => rfl
    | some _ => cases h
  | some x => cases b with
    | none => cases h
    | some y => exact congrArg some (hv x y rfl rfl)

/-! ## loops, lane by lane -/

section Lanes
variable {α β γ : Type}

def LanesRun (F : Nat → α → Option β) (l : List α) (bs : List β) : Prop :=
  bs.length = l.length ∧ ∀ (i : Nat) (a : α), l[i]? = some a → ∃ b, bs[i]? = some b ∧ F i a = some b

theorem LanesRun.out {F : Nat → α → Option β} {l : List α} {bs : List β} (h : LanesRun F l bs)
    {i : Nat} {b : β} (hb : bs[i]? = some b) : ∃ a, l[i]? = some a ∧ F i a = some b := by
  have hi : i < l.length := h.1 ▸ (List.getElem?_eq_some_iff.mp hb).1
  obtain ⟨b', hb', hF⟩ := h.2 i l[i] (List.getElem?_eq_getElem hi)
  exact ⟨l[i], List.getElem?_eq_getElem hi, by rwa [Option.some.inj (hb.symm.trans hb')]⟩

theorem LanesRun.zip_left {F : Nat → α × γ → Option β} {l : List α} {xs : List γ} {bs : List β}
    (h : LanesRun F (l.zip xs) bs) (hl : xs.length = l.length) :
    bs.length = l.length ∧ ∀ (i : Nat) (a : α), l[i]? = some a →
      ∃ x b, xs[i]? = some x ∧ bs[i]? = some b ∧ F i (a, x) = some b := by
  refine ⟨by rw [h.1, List.length_zip, hl, Nat.min_self], fun i a ha => ?_⟩
  have hi : i < xs.length := hl ▸ (List.getElem?_eq_some_iff.mp ha).1
  obtain ⟨b, hb, hF⟩ := h.2 i (a, xs[i])
    (List.getElem?_zip_eq_some.mpr ⟨ha, List.getElem?_eq_getElem hi⟩)
  exact ⟨xs[i], b, List.getElem?_eq_getElem hi, hb, hF⟩

theorem LanesRun.of_forLanes {f : Nat → α → Option β} {l : List α} {bs : List β}
    (h : forLanes f 0 l = some bs) : LanesRun f l bs :=
  ⟨forLanes_length h, fun i a ha => by simpa only [Nat.zero_add] using forLanes_get h i a ha⟩

/-- `hstep`: the step `f` calls `F` and hands on the carry `(proj r).retval.fst` computed from its
    result `r`, as the step of every Scan operation does. -/
theorem LanesRun.of_forSteps {f : Val → Nat → α → Option (β × Val)} {F : Val → Nat → α → Option β}
    {proj : β → Tr R} {l : List α} {c0 : Val} {bs : List β} {c' : Val}
    (h : forSteps f c0 0 l = some (bs, c'))
    (hstep : ∀ c i a b c1, f c i a = some (b, c1) → F c i a = some b ∧ c1 = (proj b).retval.fst) :
    LanesRun (fun i a => F (carryAt c0 (bs.map proj) i) i a) l bs := by
  refine ⟨forSteps_length h, fun j a ha => ?_⟩
  obtain ⟨b, _, hb, hf⟩ := forSteps_get_carry (nxt := fun b => (proj b).retval.fst)
    (fun c i a b c1 hf => (hstep c i a b c1 hf).2) h j a ha
  have h1 := (hstep _ _ _ _ _ hf).1
  rw [Nat.zero_add, carryG_eq_carryAt proj] at h1
  exact ⟨b, hb, h1⟩

end Lanes

/-! ## handler loops over the call sites of a body -/

theorem CML.find?_snoc (l : CML) (k : String) (c : CM) (a : String) :
    (l.snoc k c).find? a =
      match l.find? a with
      | some v => some v
      | none => if a = k then some c else none := by
  induction l using CML.list_induction with
  | nil => rfl
  | cons k' c' rest ih =>
    simp only [CML.snoc, CML.find?]
    split
    · rfl
    · exact ih

theorem CML.find?_snoc_ne (l : CML) (k : String) (c : CM) (a : String) (h : a ≠ k) :
    (l.snoc k c).find? a = l.find? a := by
  rw [CML.find?_snoc]
  cases l.find? a <;> simp [h]

theorem CML.find?_snoc_self (l : CML) (k : String) (c : CM) (h : l.find? k = none) :
    (l.snoc k c).find? k = some c := by
  rw [CML.find?_snoc, h]; simp

theorem TrL.find?_snoc_ne (l : TrL R) (k : String) (t : Tr R) (a : String)
    (h : a ≠ k) : (l.snoc k t).find? a = l.find? a := by
  rw [TrL.find?_snoc]
  cases l.find? a <;> simp [h]

section Sites

/-- What a handler loop over the call sites of a body leaves behind.  `step a g args t ds` says
    that the call at address `a` of the callee `g` on `args` produced the sub-trace `t` and the
    discard `ds`; `subs`, `d` are the sub-traces and the discard when the loop enters `b`, `subsF`,
    `dF` those at its end (a handler without discards runs with `d = dF = .nil`). -/
structure SitesInv (step : String → GF → List Val → Tr R → Option CM → Prop) (b : Body)
    (env : List Val) (subs : TrL R) (d : CML) (subsF : TrL R) (dF : CML) : Prop where
  keep : ∀ a t, subs.find? a = some t → subsF.find? a = some t ∧ dF.find? a = d.find? a
  absent : ∀ a, subs.find? a = none → b.site a = none →
    subsF.find? a = none ∧ dF.find? a = d.find? a
  site : ∀ a g es, subs.find? a = none → d.find? a = none → b.site a = some (g, es) →
    ∃ t ds, step a g (es.map (·.eval (b.envAt env subsF a))) t ds ∧
      subsF.find? a = some t ∧ dF.find? a = ds

variable {step : String → GF → List Val → Tr R → Option CM → Prop}

theorem SitesInv.ret (e : Expr) (env : List Val) (subs : TrL R) (d : CML) :
    SitesInv step (.ret e) env subs d subs d :=
  ⟨fun _ _ h => ⟨h, rfl⟩, fun _ h _ => ⟨h, rfl⟩, fun _ _ _ _ _ hs => nomatch hs⟩

theorem SitesInv.call {addr : String} {g : GF} {es : List Expr} {rest : Body} {env : List Val}
    {subs : TrL R} {d : CML} {t : Tr R} {ds : Option CM} {subsF : TrL R} {dF : CML}
    (hn : subs.find? addr = none)
    (h : SitesInv step rest (env ++ [t.retval]) (subs.snoc addr t)
      (match ds with | some c => d.snoc addr c | none => d) subsF dF)
    (hstep : step addr g (es.map (·.eval env)) t ds) :
    SitesInv step (.call addr g es rest) env subs d subsF dF := by
  -- the discard handed on differs from `d` at most at `addr`, where it holds `ds`
  obtain ⟨d', h, hd', hdself⟩ : ∃ d' : CML,
      SitesInv step rest (env ++ [t.retval]) (subs.snoc addr t) d' subsF dF ∧
      (∀ a, a ≠ addr → d'.find? a = d.find? a) ∧ (d.find? addr = none → d'.find? addr = ds) := by
    cases ds with
    | none => exact ⟨d, h, fun _ _ => rfl, id⟩
    | some c => exact ⟨_, h, fun a hne => CML.find?_snoc_ne d addr c a hne,
        CML.find?_snoc_self d addr c⟩
  have hself := h.keep addr t (TrL.find?_snoc_self hn)
  refine ⟨fun a u ha => ?_, fun a ha hs => ?_, fun a g' es' ha hda hs => ?_⟩
  · have hne : a ≠ addr := by rintro rfl; rw [hn] at ha; cases ha
    rw [← hd' a hne]
    exact h.keep a u (TrL.find?_snoc_of_some ha)
  · simp only [Body.site] at hs
    split at hs
    · cases hs
    rename_i hne
    rw [← hd' a hne]
    exact h.absent a (by rw [TrL.find?_snoc_ne _ _ _ _ hne]; exact ha) hs
  · simp only [Body.site] at hs
    split at hs
    · rename_i he
      subst he
      obtain ⟨rfl, rfl⟩ := Prod.mk.inj (Option.some.inj hs)
      rw [show (Body.call a g es rest).envAt env subsF a = env from if_pos rfl]
      exact ⟨t, ds, hstep, hself.1, hself.2.trans (hdself hda)⟩
    · rename_i hne
      rw [show (Body.call addr g es rest).envAt env subsF a = rest.envAt (env ++ [t.retval]) subsF a
        from (if_neg hne).trans (by rw [hself.1])]
      exact h.site a g' es' (by rw [TrL.find?_snoc_ne _ _ _ _ hne]; exact ha)
        (by rw [hd' a hne]; exact hda) hs

theorem SitesInv.valAt {b : Body} {env : List Val} {subsF : TrL R} {dF : CML} {r : Val} {s : R}
    (h : SitesInv step b env .nil .nil subsF dF) {q : Path} {v : Val}
    (hv : (Tr.fn subsF r s).valAt q = some v) :
    ∃ a p, q = .key a :: p ∧ ∃ g es, b.site a = some (g, es) ∧
      ∃ t ds, step a g (es.map (·.eval (b.envAt env subsF a))) t ds ∧ subsF.find? a = some t ∧
        t.valAt p = some v := by
  rcases q with _ | ⟨a | _, p⟩
  · cases hv
  · rw [Tr.valAt_fn_key] at hv
    obtain ⟨t, ht, hv⟩ := Option.bind_eq_some_iff.mp hv
    cases hsite : b.site a with
    | none => rw [(h.absent a rfl hsite).1] at ht; cases ht
    | some ge =>
      obtain ⟨t1, ds, hstep, hf, _⟩ := h.site a ge.1 ge.2 rfl rfl hsite
      cases hf.symm.trans ht
      exact ⟨a, p, rfl, ge.1, ge.2, hsite, t, ds, hstep, hf, hv⟩
  · cases hv

end Sites

end Genjax

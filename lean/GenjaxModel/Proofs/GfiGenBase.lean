import GenjaxModel.Proofs.GfiLawMain
/-!
  Common ground of the `generate` files (C02): the guard `vmapOK`; agreement of a complete choice
  map with an optional constraint (`agO`, Boolean form `agOb`), one address and one lane at a time.
-/
namespace Genjax
open Smc Smc.FinDist

mutual
  /-- every Vmap of the program accepts an empty constraint in variant `cfg` (the code as it is
      raises for `None` / `{}` when the axis size has to be inferred from a mapped argument) -/
  def GF.vmapOK (cfg : Cfg) : GF → Bool
    | .dist _ => true
    | .fn body => body.vmapOK cfg
    | .vmap g axes _ => (cfg.vmapEmptyConstraint || !axes.any id) && g.vmapOK cfg
    | .scan g _ => g.vmapOK cfg
    | .cond t f => t.vmapOK cfg && f.vmapOK cfg
  def Body.vmapOK (cfg : Cfg) : Body → Bool
    | .ret _ => true
    | .call _ g _ rest => g.vmapOK cfg && rest.vmapOK cfg
end

section Agree
variable {K : Type} [Field K] {R : Type}

def agO (ox : Option CM) (y : CM) : K :=
  match ox with
  | none => 1
  | some x => if y.agreeWith x then 1 else 0

/-- Boolean form of `agO`: no constraint, or `y` is a completion of the constraint -/
def agOb (ox : Option CM) (y : CM) : Bool :=
  match ox with
  | none => true
  | some x => y.agreeWith x

theorem agO_eq_agOb (ox : Option CM) (y : CM) :
    agO (K := K) ox y = if agOb ox y then 1 else 0 := by
  cases ox with
  | none => simp [agO, agOb]
  | some x => rfl

theorem ite_mul_ite_fd (a b : Bool) :
    (if a then (1 : K) else 0) * (if b then 1 else 0) = if (a && b) then 1 else 0 := by
  cases a <;> cases b <;> simp

theorem agO_mul_ite (o : Option CM) (c : CM) (b : Bool) :
    agO (K := K) o c * (if b then (1 : K) else 0) = if (agOb o c && b) then 1 else 0 := by
  rw [agO_eq_agOb]
  exact ite_mul_ite_fd (K := K) _ _

theorem CML.agreeAllWith_cons (k : String) (c : CM) (rest xs : CML) :
    (CML.cons k c rest).agreeAllWith xs = (agOb (xs.find? k) c && rest.agreeAllWith xs) := by
  simp only [CML.agreeAllWith, agOb]
  cases xs.find? k <;> rfl

theorem TrL.agreeAll_cons (k : String) (t : Tr R) (rest : TrL R) (xs : CML) :
    (TrL.cons k t rest).agreeAll (K := K) xs = t.agT (xs.find? k) * rest.agreeAll xs := by
  rw [TrL.agreeAll]
  cases xs.find? k <;> rfl

theorem agT_eq_agO {t : Tr R} {y : CM}
    (h : ∀ x, t.agS (K := K) x = if y.agreeWith x then 1 else 0) (ox : Option CM) :
    t.agT (K := K) ox = agO ox y := by
  cases ox with
  | none => rfl
  | some x => exact h x

/-- product of the factors `A a b` along two lists in step (0 on a length mismatch): how the lanes
    of a vectorised constraint meet the lanes of a trace or of a choice map -/
def zipProd {α β : Type} (A : α → β → K) : List α → List β → K
  | [], [] => 1
  | a :: as, b :: bs => A a b * zipProd A as bs
  | _, _ => 0

end Agree

end Genjax

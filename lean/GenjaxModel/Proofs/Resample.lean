import GenjaxModel.Model.Resample
import Mathlib.Algebra.Order.Floor.Ring
import Mathlib.Algebra.Order.Field.Basic
import Mathlib.Tactic.Linarith
import Mathlib.Data.List.GetD
/-!
  C12: systematic resampling gives every particle ⌊N w_i⌋ or ⌈N w_i⌉ copies for every offset
  u ∈ (0,1), and the copies sum to N.

  The ancestor index of position `(j + u) / N` is `≤ i` iff the position is `≤ c_i`
  (`searchsorted_le_iff`), and `⌊N t − u⌋ + 1` positions are `≤ t` (`countP_position_le`); so for
  any sorted list of thresholds in [0,1] index `i` is drawn `⌊N c_i − u⌋ − ⌊N c_{i-1} − u⌋` times
  (`count_searchsorted`), which is `⌊d⌋` or `⌈d⌉` for `d = N (c_i − c_{i-1})`
  (`floor_sub_floor_sub`).  The cumulative normalised weights are one such list
  (`cumsum_normalize_sorted`, `cumsum_normalize_mem`) with steps `w_i / Σ w`
  (`cumsum_normalize_prev`).
-/

namespace Genjax.Resample

/-! ### lists -/

theorem getD_mem {α : Type} {l : List α} {i : Nat} (hi : i < l.length) (d : α) :
    l.getD i d ∈ l := by
  rw [List.getD_eq_getElem _ _ hi]
  exact List.getElem_mem hi

theorem countP_iff {α : Type} {l : List α} {P Q : α → Prop} [DecidablePred P] [DecidablePred Q]
    (h : ∀ x ∈ l, P x ↔ Q x) :
    l.countP (fun x => decide (P x)) = l.countP (fun x => decide (Q x)) :=
  List.countP_congr fun x hx => by rw [decide_eq_true_iff, decide_eq_true_iff]; exact h x hx

theorem countP_range_lt (m n : Nat) :
    (List.range n).countP (fun j : Nat => decide (j < m)) = min n m := by
  induction n with
  | zero => rfl
  | succ n ih =>
    rw [List.range_succ, List.countP_append, ih, List.countP_singleton]
    split_ifs with h <;> simp only [decide_eq_true_eq] at h <;> omega

theorem count_map_add_countP_lt {α : Type} (f : α → Nat) (l : List α) (i : Nat) :
    (l.map f).count i + l.countP (fun a => decide (f a < i)) =
      l.countP (fun a => decide (f a ≤ i)) := by
  induction l with
  | nil => rfl
  | cons x xs ih =>
    rw [List.map_cons, List.count_cons, List.countP_cons, List.countP_cons, ← ih]
    rcases Nat.lt_trichotomy (f x) i with h | h | h
    · simp [h, h.le, h.ne]; omega
    · simp [h]; omega
    · simp [h.not_gt, h.not_ge, h.ne']

theorem sum_count_range {l : List Nat} {m : Nat} (h : ∀ i ∈ l, i < m) :
    ((List.range m).map l.count).sum = l.length := by
  induction l with
  | nil => simp
  | cons x xs ih =>
    rw [List.forall_mem_cons] at h
    have hx : (List.range m).count x = 1 := by rw [List.count_range, if_pos h.1]
    simp only [List.count_cons, List.sum_map_add, ih h.2, List.length_cons]
    rw [List.sum_map_eq_nsmul_single x, hx]
    · simp
    · intro i hi _
      simp [Ne.symm hi]

variable {K : Type} [Field K]

/-! ### `sum`, `cumsumFrom` and `normalize` over a field -/

theorem sum_map_div (l : List K) (s : K) : sum (l.map (· / s)) = sum l / s := by
  induction l with
  | nil => exact (zero_div s).symm
  | cons x xs ih => rw [List.map_cons, sum, sum, ih, add_div]

theorem sum_map_one {β : Type} (l : List β) : sum (l.map fun _ => (1 : K)) = (l.length : K) := by
  induction l with
  | nil => exact Nat.cast_zero.symm
  | cons x xs ih => rw [List.map_cons, sum, ih, List.length_cons, Nat.cast_succ, add_comm]

theorem sum_normalize {w : List K} (hs : sum w ≠ 0) : sum (normalize w) = 1 := by
  rw [normalize, sum_map_div, div_self hs]

theorem normalize_getD (w : List K) (i : Nat) : (normalize w).getD i 0 = w.getD i 0 / sum w := by
  simpa only [normalize, zero_div] using List.getD_map (l := w) (d := 0) (n := i) (· / sum w)

theorem cumsumFrom_length (acc : K) (l : List K) : (cumsumFrom acc l).length = l.length := by
  induction l generalizing acc with
  | nil => rfl
  | cons x xs ih => rw [cumsumFrom, List.length_cons, List.length_cons, ih]

theorem cumsumFrom_getD (acc : K) (l : List K) (i : Nat) (hi : i < l.length) :
    (cumsumFrom acc l).getD i 0 - l.getD i 0 =
      if i = 0 then acc else (cumsumFrom acc l).getD (i - 1) 0 := by
  induction l generalizing acc i with
  | nil => cases hi
  | cons x xs ih =>
    cases i with
    | zero => exact add_sub_cancel_right acc x
    | succ i =>
      have := ih (acc + x) i (Nat.lt_of_succ_lt_succ hi)
      cases i <;> exact this

theorem cumsumFrom_total_mem {l : List K} (h : l ≠ []) (acc : K) :
    acc + sum l ∈ cumsumFrom acc l := by
  induction l generalizing acc with
  | nil => exact absurd rfl h
  | cons x xs ih =>
    rw [sum, ← add_assoc, cumsumFrom]
    rcases eq_or_ne xs [] with rfl | hxs
    · rw [sum, add_zero]; exact List.mem_cons_self
    · exact List.mem_cons_of_mem _ (ih hxs _)

theorem cumsum_normalize_length (w : List K) : (cumsum (normalize w)).length = w.length := by
  rw [cumsum, cumsumFrom_length, normalize, List.length_map]

theorem cumsum_normalize_prev (w : List K) {i : Nat} (hi : i < w.length) :
    (cumsum (normalize w)).getD i 0 - w.getD i 0 / sum w =
      if i = 0 then 0 else (cumsum (normalize w)).getD (i - 1) 0 := by
  rw [← normalize_getD]
  exact cumsumFrom_getD 0 _ i (by rwa [normalize, List.length_map])

theorem one_mem_cumsum_normalize {w : List K} (hs : sum w ≠ 0) : 1 ∈ cumsum (normalize w) := by
  have hne : normalize w ≠ [] := by
    intro h
    rw [List.map_eq_nil_iff.1 h] at hs
    exact hs rfl
  have := cumsumFrom_total_mem hne 0
  rwa [sum_normalize hs, zero_add] at this

variable [LinearOrder K]

/-! ### `searchsorted` on a sorted list -/

theorem searchsorted_le_iff {c : List K} (hc : c.Pairwise (· ≤ ·)) {i : Nat} (hi : i < c.length)
    (v : K) : searchsorted c v ≤ i ↔ v ≤ c.getD i 0 := by
  unfold searchsorted
  induction c generalizing i with
  | nil => cases hi
  | cons x xs ih =>
    rw [List.pairwise_cons] at hc
    by_cases hx : x < v
    · rw [List.filter_cons, if_pos (decide_eq_true hx), List.length_cons]
      cases i with
      | zero => exact iff_of_false (Nat.succ_ne_zero _ ∘ Nat.le_zero.1) hx.not_ge
      | succ i => exact Nat.succ_le_succ_iff.trans (ih hc.2 (Nat.lt_of_succ_lt_succ hi))
    · -- `v ≤ x`, and `x` is below every later entry: nothing is counted
      have hv := not_lt.1 hx
      rw [List.filter_eq_nil_iff.2 fun y hy => by
        have : v ≤ y := by
          rcases List.mem_cons.1 hy with rfl | hy
          exacts [hv, hv.trans (hc.1 y hy)]
        simpa using this]
      refine iff_of_true (Nat.zero_le _) ?_
      cases i with
      | zero => exact hv
      | succ i => exact hv.trans (hc.1 _ (getD_mem (Nat.lt_of_succ_lt_succ hi) 0))

omit [Field K] in
theorem searchsorted_lt_length {c : List K} {v x : K} (hx : x ∈ c) (hv : v ≤ x) :
    searchsorted c v < c.length :=
  List.length_filter_lt_length_iff_exists.2 ⟨x, hx, by simpa using hv⟩

variable [IsStrictOrderedRing K]

/-! ### running sums of non-negative numbers -/

theorem sum_nonneg {l : List K} (hl : ∀ x ∈ l, 0 ≤ x) : 0 ≤ sum l := by
  induction l with
  | nil => exact le_rfl
  | cons x xs ih =>
    rw [List.forall_mem_cons] at hl
    exact add_nonneg hl.1 (ih hl.2)

theorem cumsumFrom_mem {l : List K} (hl : ∀ x ∈ l, 0 ≤ x) {acc y : K}
    (hy : y ∈ cumsumFrom acc l) : acc ≤ y ∧ y ≤ acc + sum l := by
  induction l generalizing acc with
  | nil => cases hy
  | cons x xs ih =>
    rw [List.forall_mem_cons] at hl
    rw [sum, ← add_assoc]
    rcases List.mem_cons.1 hy with rfl | hy
    · exact ⟨le_add_of_nonneg_right hl.1, le_add_of_nonneg_right (sum_nonneg hl.2)⟩
    · exact ⟨(le_add_of_nonneg_right hl.1).trans (ih hl.2 hy).1, (ih hl.2 hy).2⟩

theorem cumsumFrom_sorted {l : List K} (hl : ∀ x ∈ l, 0 ≤ x) (acc : K) :
    (cumsumFrom acc l).Pairwise (· ≤ ·) := by
  induction l generalizing acc with
  | nil => exact List.Pairwise.nil
  | cons x xs ih =>
    rw [List.forall_mem_cons] at hl
    exact List.pairwise_cons.2 ⟨fun y hy => (cumsumFrom_mem hl.2 hy).1, ih hl.2 _⟩

theorem normalize_nonneg {w : List K} (hw : ∀ x ∈ w, 0 ≤ x) (hs : 0 < sum w) :
    ∀ x ∈ normalize w, 0 ≤ x := by
  intro x hx
  obtain ⟨y, hy, rfl⟩ := List.mem_map.1 hx
  exact div_nonneg (hw y hy) hs.le

theorem cumsum_normalize_sorted {w : List K} (hw : ∀ x ∈ w, 0 ≤ x) (hs : 0 < sum w) :
    (cumsum (normalize w)).Pairwise (· ≤ ·) :=
  cumsumFrom_sorted (normalize_nonneg hw hs) 0

theorem cumsum_normalize_mem {w : List K} (hw : ∀ x ∈ w, 0 ≤ x) (hs : 0 < sum w) :
    ∀ x ∈ cumsum (normalize w), 0 ≤ x ∧ x ≤ 1 := by
  intro x hx
  have := cumsumFrom_mem (normalize_nonneg hw hs) hx
  rwa [sum_normalize hs.ne', zero_add] at this

/-! ### the positions `(j + u) / n`, `j < n`, are below 1: the ancestor indices are valid -/

theorem position_lt_one {n j : Nat} (hj : j < n) {u : K} (hu1 : u < 1) :
    ((j : K) + u) / (n : K) < 1 :=
  (div_lt_one (Nat.cast_pos.2 (Nat.zero_lt_of_lt hj))).2
    (((add_lt_add_iff_left _).2 hu1).trans_le ((Nat.cast_succ j).ge.trans (Nat.cast_le.2 hj)))

theorem systematic_index_lt {w : List K} (hs : 0 < sum w) (n : Nat) {u : K} (hu1 : u < 1) :
    ∀ i ∈ systematic w n u, i < w.length := by
  intro i hi
  obtain ⟨j, hj, rfl⟩ := List.mem_map.1 hi
  rw [← cumsum_normalize_length w]
  exact searchsorted_lt_length (one_mem_cumsum_normalize hs.ne')
    (position_lt_one (List.mem_range.1 hj) hu1).le

variable [FloorRing K]

theorem systematic_total (w : List K) (n : Nat) (u : K)
    (hw : ∀ x ∈ w, 0 ≤ x) (hs : 0 < sum w) (hu0 : 0 < u) (hu1 : u < 1) :
    ((List.range w.length).map (copies (systematic w n u))).sum = n :=
  (sum_count_range (systematic_index_lt hs n hu1)).trans
    (by rw [systematic, List.length_map, List.length_range])

/-! ### the number of positions up to a threshold -/

theorem position_le_iff {n : Nat} (hn : 0 < n) (j : Nat) (u b : K) :
    ((j : K) + u) / (n : K) ≤ b ↔ (j : Int) ≤ ⌊(n : K) * b - u⌋ := by
  have hn' : (0 : K) < n := Nat.cast_pos.2 hn
  rw [Int.le_floor, Int.cast_natCast, div_le_iff₀' hn', le_sub_iff_add_le]

theorem countP_position_le (n : Nat) {u t : K} (hu0 : 0 < u) (hu1 : u < 1)
    (ht0 : 0 ≤ t) (ht1 : t ≤ 1) :
    ((List.range n).countP (fun j : Nat => decide (((j : K) + u) / n ≤ t)) : Int) =
      ⌊(n : K) * t - u⌋ + 1 := by
  have hn0 : (0 : K) ≤ n := Nat.cast_nonneg n
  have h1 : -1 ≤ ⌊(n : K) * t - u⌋ :=
    Int.le_floor.2 (by push_cast; linarith [mul_nonneg hn0 ht0])
  have h2 : ⌊(n : K) * t - u⌋ < n :=
    Int.floor_lt.2 (by push_cast; linarith [mul_le_of_le_one_right hn0 ht1])
  rw [countP_iff fun j hj => (position_le_iff (Nat.zero_lt_of_lt (List.mem_range.1 hj)) j u t).trans
      (Int.lt_add_one_iff.symm.trans Int.lt_toNat.symm), countP_range_lt]
  omega

/-! ### systematic resampling with arbitrary sorted thresholds in `[0,1]` -/

theorem countP_searchsorted_le {c : List K} (hc : c.Pairwise (· ≤ ·))
    (h01 : ∀ x ∈ c, 0 ≤ x ∧ x ≤ 1) (n : Nat) {u : K} (hu0 : 0 < u) (hu1 : u < 1)
    {i : Nat} (hi : i < c.length) :
    ((List.range n).countP (fun j : Nat => decide (searchsorted c (((j : K) + u) / n) ≤ i)) : Int) =
      ⌊(n : K) * c.getD i 0 - u⌋ + 1 := by
  obtain ⟨h0, h1⟩ := h01 _ (getD_mem hi 0)
  rw [countP_iff fun j _ => searchsorted_le_iff hc hi _]
  exact countP_position_le n hu0 hu1 h0 h1

/-- Index `i` is hit by the positions in `(c_{i-1}, c_i]` (`c_{-1} = 0`). -/
theorem count_searchsorted {c : List K} (hc : c.Pairwise (· ≤ ·)) (h01 : ∀ x ∈ c, 0 ≤ x ∧ x ≤ 1)
    (n : Nat) {u : K} (hu0 : 0 < u) (hu1 : u < 1) {i : Nat} (hi : i < c.length) :
    ((((List.range n).map fun j : Nat => searchsorted c (((j : K) + u) / n)).count i : Nat) : Int) =
      ⌊(n : K) * c.getD i 0 - u⌋ - ⌊(n : K) * (if i = 0 then 0 else c.getD (i - 1) 0) - u⌋ := by
  have hle := countP_searchsorted_le hc h01 n hu0 hu1 hi
  have hlt : ((List.range n).countP
      (fun j : Nat => decide (searchsorted c (((j : K) + u) / n) < i)) : Int) =
      ⌊(n : K) * (if i = 0 then 0 else c.getD (i - 1) 0) - u⌋ + 1 := by
    cases i with
    | zero =>
      -- no index is `< 0`, and `⌊-u⌋ = -1`
      have h : ⌊(n : K) * 0 - u⌋ = -1 := by
        rw [mul_zero, zero_sub, Int.floor_eq_iff, Int.cast_neg, Int.cast_one, neg_le_neg_iff,
          neg_add_cancel, neg_lt_zero]
        exact ⟨hu1.le, hu0⟩
      rw [if_pos rfl, h, List.countP_eq_zero.2 fun j _ => by simp]
      rfl
    | succ i =>
      rw [countP_iff fun j _ => Nat.lt_succ_iff]
      exact countP_searchsorted_le hc h01 n hu0 hu1 (Nat.lt_of_succ_lt hi)
  have := count_map_add_countP_lt (fun j : Nat => searchsorted c (((j : K) + u) / n))
    (List.range n) i
  omega

theorem floor_sub_floor_sub (y d : K) : ⌊d⌋ ≤ ⌊y⌋ - ⌊y - d⌋ ∧ ⌊y⌋ - ⌊y - d⌋ ≤ ⌈d⌉ := by
  constructor
  · have := Int.le_floor_add (y - d) d
    rw [sub_add_cancel] at this
    exact le_sub_iff_add_le'.2 this
  · rw [sub_le_iff_le_add', ← Int.floor_add_intCast]
    exact Int.floor_le_floor (by linarith [Int.le_ceil d])

end Genjax.Resample

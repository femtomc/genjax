import GenjaxModel.Proofs.GfiRegen
import Mathlib.Algebra.Group.Int.Defs
/-!
  Particle gathering (`resample_vectorized_trace`: `tree_map (leaf ↦ leaf[indices]) trace`) and
  the kernels' per-lane accept/reject (`tree_map (where accept new old)`) preserve the coherence of
  a vectorised (Vmap) trace — properties C05 / C12.

  SMC (src/genjax/inference/smc.py) keeps the N particles as ONE Vmap trace `Tr.vec lanes`.
  `resample` gathers every leaf of that trace pytree with the ancestor vector `idx`; the pytree
  includes the arguments recorded with the trace, so the mapped (per-particle) arguments are gathered
  too, the unmapped (broadcast) ones have no particle axis and stay as they are:
  `vmap_gather_coherent` for the gathered arguments, and `vmap_gather_args_needed` (a concrete
  3-particle collection) against the ungathered ones.  `select_lanes_coherent` is the lane-wise
  accept/reject; `history_with_gather_coherent` extends the histories of C05 by these moves.
-/
namespace Genjax
variable {R : Type}

/-- the junk lane used to totalise an out-of-range gather (never reached under the guards
    `∀ i ∈ idx, i < n` of the theorems) -/
instance instInhabitedTr : Inhabited (Tr R) := ⟨.vec .nil⟩

/-- `l[idx]`: element `j` of the result is element `idx[j]` of the input -/
def gatherL {α : Type} [Inhabited α] (idx : List Nat) (l : List α) : List α :=
  idx.map fun i => l.getD i default

/-- keys of lanes are ignored by the model -/
def TrL.gather (idx : List Nat) (l : TrL R) : TrL R := TrL.ofList (gatherL idx l.toList)

def Val.gather (idx : List Nat) (v : Val) : Val := Val.ofList (idx.map v.nth)

/-- gather the arguments recorded with a Vmap trace: mapped arguments (`axes[j] = true`) along the
    lane axis, unmapped ones unchanged (same recursion as `laneArgs`) -/
def gatherArgs : List Bool → List Nat → List Val → List Val
  | b :: bs, idx, a :: as => (if b then a.gather idx else a) :: gatherArgs bs idx as
  | [], _, as => as
  | _ :: _, _, [] => []

/-- `resample_vectorized_trace` on a trace: every leaf of a Vmap trace is indexed with `idx` -/
def Tr.gatherVec (idx : List Nat) : Tr R → Tr R
  | .vec lanes => .vec (lanes.gather idx)
  | t => t

theorem gatherL_length {α : Type} [Inhabited α] (idx : List Nat) (l : List α) :
    (gatherL idx l).length = idx.length := by simp [gatherL]

theorem gatherL_getElem? {α : Type} [Inhabited α] (idx : List Nat) (l : List α) (j : Nat) :
    (gatherL idx l)[j]? = (idx[j]?).map fun i => l.getD i default := by
  simp [gatherL]

theorem Val.nth_ofList : ∀ (l : List Val) (j : Nat), (Val.ofList l).nth j = l.getD j .nil
  | [], j => by cases j <;> rfl
  | x :: xs, 0 => rfl
  | x :: xs, j + 1 => by
    simp only [Val.ofList, Val.nth, List.getD_cons_succ]; exact Val.nth_ofList xs j

theorem Val.toList_ofList : ∀ (l : List Val), (Val.ofList l).toList = l
  | [] => rfl
  | x :: xs => by simp [Val.ofList, Val.toList, Val.toList_ofList xs]

theorem Val.nth_gather (idx : List Nat) (v : Val) (j i : Nat) (h : idx[j]? = some i) :
    (v.gather idx).nth j = v.nth i := by
  simp [Val.gather, Val.nth_ofList, List.getD, h]

theorem laneArgs_gatherArgs (idx : List Nat) (j i : Nat) (h : idx[j]? = some i) :
    ∀ (axes : List Bool) (args : List Val),
      laneArgs axes (gatherArgs axes idx args) j = laneArgs axes args i
  | [], args => by simp [gatherArgs, laneArgs]
  | _ :: _, [] => by simp [gatherArgs, laneArgs]
  | b :: bs, a :: as => by
    simp only [gatherArgs, laneArgs, laneArgs_gatherArgs idx j i h bs as]
    cases b
    · simp
    · simp [Val.nth_gather idx a j i h]

theorem gatherArgs_length : ∀ (axes : List Bool) (idx : List Nat) (args : List Val),
    (gatherArgs axes idx args).length = args.length
  | [], _, args => by simp [gatherArgs]
  | _ :: _, _, [] => by simp [gatherArgs]
  | b :: bs, idx, a :: as => by simp [gatherArgs, gatherArgs_length bs idx as]

theorem gatherArgs_unmapped (idx : List Nat) (args : List Val) :
    ∀ (axes : List Bool), (axes.all fun b => !b) = true → gatherArgs axes idx args = args := by
  induction args with
  | nil => intro axes _; cases axes <;> rfl
  | cons a as ih =>
    intro axes h
    cases axes with
    | nil => rfl
    | cons b bs =>
      simp only [List.all_cons, Bool.and_eq_true, Bool.not_eq_true'] at h
      simp [gatherArgs, h.1, ih bs h.2]

theorem TrL.gather_toList (idx : List Nat) (l : TrL R) :
    (l.gather idx).toList = gatherL idx l.toList := TrL.toList_ofList _

/-! ### gathering a coherent Vmap trace -/

section Coh
variable [Zero R] [Add R] [Neg R] (P : Prims R)

theorem vmap_gather_lane (g : GF) (axes : List Bool) (n : Nat) (args : List Val) (lanes : TrL R)
    (idx : List Nat) (h : (GF.vmap g axes n).Coh P args (.vec lanes)) (hidx : ∀ i ∈ idx, i < n)
    (j i : Nat) (hj : idx[j]? = some i) :
    ∃ t, lanes.toList[i]? = some t ∧ (lanes.gather idx).toList[j]? = some t ∧
      g.Coh P (laneArgs axes args i) t := by
  simp only [GF.Coh] at h
  obtain ⟨hlen, hl⟩ := h
  have hi : i < lanes.toList.length := by
    rw [hlen]; exact hidx i (List.mem_of_getElem? hj)
  refine ⟨lanes.toList[i], by simp [hi], ?_, ?_⟩
  · simp [TrL.gather_toList, gatherL_getElem?, hj, List.getD, hi]
  · have := (lanesCoh_iff _ axes args lanes.toList 0).1 hl i lanes.toList[i] (by simp [hi])
    simpa using this

/-- gathering the lanes AND the mapped arguments keeps a Vmap trace coherent -/
theorem vmap_gather_coherent (g : GF) (axes : List Bool) (n : Nat) (args : List Val) (lanes : TrL R)
    (idx : List Nat) (h : (GF.vmap g axes n).Coh P args (.vec lanes)) (hidx : ∀ i ∈ idx, i < n) :
    (GF.vmap g axes idx.length).Coh P (gatherArgs axes idx args) (.vec (lanes.gather idx)) := by
  simp only [GF.Coh]
  refine ⟨by simp [TrL.gather_toList, gatherL_length], ?_⟩
  rw [lanesCoh_iff]
  intro k t hk
  rw [TrL.gather_toList, gatherL_getElem?] at hk
  cases hik : idx[k]? with
  | none => simp [hik] at hk
  | some i =>
    obtain ⟨t', _, h2, h3⟩ := vmap_gather_lane P g axes n args lanes idx h hidx k i hik
    rw [TrL.gather_toList, gatherL_getElem?] at h2
    rw [hk] at h2
    cases h2
    rw [Nat.zero_add, laneArgs_gatherArgs idx k i hik]
    exact h3

omit [Neg R] in
theorem vmap_gather_score (lanes : TrL R) (idx : List Nat) :
    (Tr.vec (lanes.gather idx)).score = sumR (idx.map fun i => (lanes.toList.getD i default).score) := by
  simp only [Tr.score, TrL.gather, TrL.scoreSum_ofList, gatherL, List.map_map]
  rfl

omit [Zero R] [Add R] [Neg R] in
theorem vmap_gather_retval (lanes : TrL R) (idx : List Nat) (hidx : ∀ i ∈ idx, i < lanes.toList.length) :
    (Tr.vec (lanes.gather idx)).retval = (Tr.vec lanes).retval.gather idx := by
  simp only [Tr.retval, TrL.gather, TrL.retvals_eq, TrL.toList_ofList, gatherL, List.map_map,
    Val.gather]
  congr 1
  apply List.map_congr_left
  intro i hi
  have := hidx i hi
  simp [Val.nth_ofList, List.getD, this]

end Coh

/-! ### lane-wise accept / reject -/

/-- `where(mask, a, b)` lane by lane -/
def selectL {α : Type} : List Bool → List α → List α → List α
  | m :: ms, a :: as, b :: bs => (if m then a else b) :: selectL ms as bs
  | _, _, _ => []

/-- `tree_map (where accept new old)` on the lanes of two vectorised traces -/
def TrL.select (mask : List Bool) (new old : TrL R) : TrL R :=
  TrL.ofList (selectL mask new.toList old.toList)

/-- on whole traces (only Vmap traces have lanes) -/
def Tr.selectVec (mask : List Bool) : Tr R → Tr R → Tr R
  | .vec new, .vec old => .vec (TrL.select mask new old)
  | _, old => old

theorem selectL_length {α : Type} (mask : List Bool) : ∀ (a b : List α) (n : Nat),
    mask.length = n → a.length = n → b.length = n → (selectL mask a b).length = n := by
  induction mask with
  | nil => exact fun _ _ _ h _ _ => h
  | cons m ms ih =>
    rintro (_ | ⟨x, xs⟩) (_ | ⟨y, ys⟩) n h1 h2 h3
    · exact h2
    · exact h2
    · exact h3
    · cases n with
      | zero => cases h1
      | succ n => exact congrArg (· + 1) (ih xs ys n (Nat.succ.inj h1) (Nat.succ.inj h2) (Nat.succ.inj h3))

theorem selectL_map {α β : Type} (f : α → β) (mask : List Bool) : ∀ (a b : List α),
    (selectL mask a b).map f = selectL mask (a.map f) (b.map f) := by
  induction mask with
  | nil => exact fun _ _ => rfl
  | cons m ms ih =>
    rintro (_ | ⟨x, xs⟩) (_ | ⟨y, ys⟩)
    · rfl
    · rfl
    · rfl
    · exact congrArg₂ (· :: ·) (apply_ite f m x y) (ih xs ys)

theorem lanesCoh_selectL (coh : List Val → Tr R → Prop) (axes : List Bool) (args : List Val)
    (mask : List Bool) : ∀ (a b : List (Tr R)) (s : Nat),
      lanesCoh coh axes args s a → lanesCoh coh axes args s b →
      lanesCoh coh axes args s (selectL mask a b) := by
  induction mask with
  | nil => exact fun _ _ _ _ _ => trivial
  | cons m ms ih =>
    rintro (_ | ⟨x, xs⟩) (_ | ⟨y, ys⟩) s ha hb
    · trivial
    · trivial
    · trivial
    · exact ⟨by cases m; exacts [hb.1, ha.1], ih xs ys (s + 1) ha.2 hb.2⟩

section Sel
variable [Zero R] [Add R] [Neg R] (P : Prims R)

theorem select_lanes_coherent (g : GF) (axes : List Bool) (n : Nat) (args : List Val)
    (new old : TrL R) (mask : List Bool) (hm : mask.length = n)
    (h1 : (GF.vmap g axes n).Coh P args (.vec new)) (h2 : (GF.vmap g axes n).Coh P args (.vec old)) :
    (GF.vmap g axes n).Coh P args (.vec (TrL.select mask new old)) := by
  refine And.intro ?_ ?_
  · rw [TrL.select, TrL.toList_ofList]
    exact selectL_length mask _ _ n hm h1.1 h2.1
  · rw [TrL.select, TrL.toList_ofList]
    exact lanesCoh_selectL _ axes args mask _ _ 0 h1.2 h2.2

omit [Neg R] in
theorem select_lanes_score (new old : TrL R) (mask : List Bool) :
    (Tr.vec (TrL.select mask new old)).score =
      sumR (selectL mask (new.toList.map Tr.score) (old.toList.map Tr.score)) := by
  simp only [Tr.score, TrL.select, TrL.scoreSum_ofList, selectL_map]

omit [Zero R] [Add R] [Neg R] in
theorem select_lanes_retval (new old : TrL R) (mask : List Bool) :
    (Tr.vec (TrL.select mask new old)).retval =
      Val.ofList (selectL mask (new.toList.map Tr.retval) (old.toList.map Tr.retval)) := by
  simp only [Tr.retval, TrL.select, TrL.retvals_eq, TrL.toList_ofList, selectL_map]

end Sel

/-! ### histories with gather and lane-wise selection (particle collections) -/

section History
variable [AddCommGroup R] (P : Prims R) (cfg : Cfg)

/-- moves on a particle collection (a trace of `Vmap g axes n`): the moves of `Op`, plus
    * `gather idx`            — `resample`: index every leaf of the trace (arguments included) with `idx`;
    * `laneSelect mask other` — `where(mask_j, other_j, current_j)` against a trace supplied from outside;
    * `kernel mask op`        — an MCMC kernel vmapped over the particles: propose with `op` (an update
                                 or a regenerate of the whole collection), then accept/reject per lane. -/
inductive Op' (R : Type) where
  | base (op : Op)
  | gather (idx : List Nat)
  | laneSelect (mask : List Bool) (other : Tr R)
  | kernel (mask : List Bool) (op : Op)

/-- the state is (number of lanes, trace, recorded arguments) -/
def applyOp' (g : GF) (axes : List Bool) (n : Nat) (t : Tr R) (a : List Val) :
    Op' R → Option (Nat × Tr R × List Val)
  | .base op => (applyOp P cfg (.vmap g axes n) t op).map fun r => (n, r.1, r.2.1)
  | .gather idx => some (idx.length, t.gatherVec idx, gatherArgs axes idx a)
  | .laneSelect mask other => some (n, Tr.selectVec mask other t, a)
  | .kernel mask op =>
      (applyOp P cfg (.vmap g axes n) t op).map fun r => (n, Tr.selectVec mask r.1 t, a)

def applyOps' (g : GF) (axes : List Bool) :
    Nat → Tr R → List Val → List (Op' R) → Option (Nat × Tr R × List Val)
  | n, t, a, [] => some (n, t, a)
  | n, t, a, op :: ops =>
    match applyOp' P cfg g axes n t a op with
    | some (n', t', a') => applyOps' g axes n' t' a' ops
    | none => none

/-- side conditions of a history (they depend on the lane count and the recorded arguments only,
    which evolve independently of the trace):
    * ancestor indices designate existing lanes;
    * a mask has one entry per lane;
    * a trace supplied from outside is coherent for the arguments recorded at that moment;
    * a kernel proposes under the arguments recorded at that moment (the selection `where` is then
      between two traces recorded with the same arguments). -/
def OpsOk (g : GF) (axes : List Bool) : Nat → List Val → List (Op' R) → Prop
  | _, _, [] => True
  | n, _, .base op :: r => OpsOk g axes n op.args r
  | n, a, .gather idx :: r => (∀ i ∈ idx, i < n) ∧ OpsOk g axes idx.length (gatherArgs axes idx a) r
  | n, a, .laneSelect mask other :: r =>
      mask.length = n ∧ (GF.vmap g axes n).Coh P a other ∧ OpsOk g axes n a r
  | n, a, .kernel mask op :: r => mask.length = n ∧ op.args = a ∧ OpsOk g axes n a r

omit [AddCommGroup R] in
theorem vmap_coh_vec [Zero R] [Add R] [Neg R] {g : GF} {axes : List Bool} {n : Nat} {a : List Val}
    {t : Tr R} (h : (GF.vmap g axes n).Coh P a t) : ∃ lanes, t = .vec lanes := by
  cases t with
  | vec lanes => exact ⟨lanes, rfl⟩
  | _ => exact False.elim h

theorem applyOp'_coh (g : GF) (axes : List Bool) (n : Nat) (t : Tr R) (a : List Val)
    (ht : (GF.vmap g axes n).Coh P a t) (op : Op' R) (rest : List (Op' R))
    (hok : OpsOk P g axes n a (op :: rest)) (n' : Nat) (t' : Tr R) (a' : List Val)
    (h : applyOp' P cfg g axes n t a op = some (n', t', a')) :
    (GF.vmap g axes n').Coh P a' t' ∧ OpsOk P g axes n' a' rest := by
  cases op with
  | base op =>
    obtain ⟨⟨t2, a2, w2⟩, hu, e⟩ := Option.map_eq_some_iff.mp h
    cases e
    obtain ⟨hc, rfl⟩ := applyOp_coh P cfg _ t op _ _ _ hu
    exact ⟨hc, hok⟩
  | gather idx =>
    cases h
    obtain ⟨lanes, rfl⟩ := vmap_coh_vec P ht
    exact ⟨vmap_gather_coherent P g axes n a lanes idx ht hok.1, hok.2⟩
  | laneSelect mask other =>
    cases h
    obtain ⟨hm, ho, hr⟩ := hok
    obtain ⟨lanes, rfl⟩ := vmap_coh_vec P ht
    obtain ⟨lanes', rfl⟩ := vmap_coh_vec P ho
    exact ⟨select_lanes_coherent P g axes _ a lanes' lanes mask hm ho ht, hr⟩
  | kernel mask op =>
    obtain ⟨⟨t2, a2, w2⟩, hu, e⟩ := Option.map_eq_some_iff.mp h
    cases e
    obtain ⟨hm, ha, hr⟩ := hok
    obtain ⟨hc, rfl⟩ := applyOp_coh P cfg _ t op _ _ _ hu
    rw [ha] at hc
    obtain ⟨lanes, rfl⟩ := vmap_coh_vec P ht
    obtain ⟨lanes', rfl⟩ := vmap_coh_vec P hc
    exact ⟨select_lanes_coherent P g axes _ _ lanes' lanes mask hm hc ht, hr⟩

/-- a particle collection (trace of a top-level Vmap) stays
    coherent — for the lane count and the arguments recorded by the last move — under any finite
    history of update / regenerate / resample-gather / lane-wise accept-reject / vmapped kernel moves -/
theorem history_with_gather_coherent (g : GF) (axes : List Bool) (n : Nat) (t : Tr R) (a : List Val)
    (ht : (GF.vmap g axes n).Coh P a t) (ops : List (Op' R)) (hok : OpsOk P g axes n a ops)
    (n' : Nat) (t' : Tr R) (a' : List Val)
    (h : applyOps' P cfg g axes n t a ops = some (n', t', a')) :
    (GF.vmap g axes n').Coh P a' t' := by
  induction ops generalizing n t a with
  | nil => cases h; exact ht
  | cons op ops ih =>
    unfold applyOps' at h
    split at h
    · rename_i n1 t1 a1 hop
      obtain ⟨hc, hr⟩ := applyOp'_coh P cfg g axes n t a ht op ops hok n1 t1 a1 hop
      exact ih n1 t1 a1 hc hr h
    · cases h

theorem applyOps'_base (g : GF) (axes : List Bool) (n : Nat) (t : Tr R) (a : List Val) (ops : List Op) :
    applyOps' P cfg g axes n t a (ops.map .base) =
      (applyOps P cfg (.vmap g axes n) t a ops).map fun r => (n, r.1, r.2) := by
  induction ops generalizing t a with
  | nil => simp [applyOps', applyOps]
  | cons op ops ih =>
    simp only [List.map_cons, applyOps', applyOps, applyOp']
    cases hop : applyOp P cfg (.vmap g axes n) t op with
    | none => simp
    | some r => obtain ⟨t1, a1, w1⟩ := r; simp [ih]

end History

/-! ### a concrete 3-lane program: mapped + unmapped argument, `idx = [2,0,0]` -/

deriving instance DecidableEq for Tr, TrL

/-- integer log densities that DEPEND on the arguments (both of them) -/
def gatherExP : Prims ℤ where
  lp := fun d a v => (d : ℤ) + (a.getD 0 .nil).toRat.num + 7 * (a.getD 1 .nil).toRat.num + 2 * v.toRat.num
  draw := fun d a => .num ((d : Rat) + (a.getD 0 .nil).toRat)

/-- callee of the particle Vmap: `x ~ d1(a, b); return x + b` -/
def gatherExG : GF := .fn (.call "x" (.dist 1) [.var 0, .var 1] (.ret (.add (.var 2) (.var 1))))

/-- `a` mapped over the particle axis (10, 20, 30), `b = 5` broadcast: `in_axes = (0, None)` -/
def gatherExArgs : List Val := [Val.ofList [.num 10, .num 20, .num 30], .num 5]

def gatherExLane (v : Rat) (s : ℤ) (r : Rat) : Tr ℤ :=
  .fn (.cons "x" (.leaf (.num v) s) .nil) (.num r) s

def gatherExLanes : TrL ℤ :=
  TrL.ofList [gatherExLane 11 (-68) 16, gatherExLane 21 (-98) 26, gatherExLane 31 (-128) 36]

theorem gatherEx_simulate :
    (GF.vmap gatherExG [true, false] 3).simulate gatherExP gatherExArgs = some (.vec gatherExLanes) := by
  decide +kernel

theorem gatherEx_coh : (GF.vmap gatherExG [true, false] 3).Coh gatherExP gatherExArgs (.vec gatherExLanes) :=
  simulate_coh gatherExP _ _ _ gatherEx_simulate

theorem gatherEx_gather : gatherExLanes.gather [2, 0, 0] =
    TrL.ofList [gatherExLane 31 (-128) 36, gatherExLane 11 (-68) 16, gatherExLane 11 (-68) 16] := by
  decide +kernel

theorem gatherEx_gatherArgs : gatherArgs [true, false] [2, 0, 0] gatherExArgs =
    [Val.ofList [.num 30, .num 10, .num 10], .num 5] := by decide +kernel

/-- the gathered lanes are not coherent for the ungathered arguments: lane 0 holds `x = 31` with
    score `-128`, but for `a = 10` the score of `x = 31` is `-108` -/
theorem gatherEx_not_coh : ¬ (GF.vmap gatherExG [true, false] 3).Coh gatherExP gatherExArgs
    (.vec (gatherExLanes.gather [2, 0, 0])) := by
  rw [gatherEx_gather]
  rintro ⟨-, ⟨⟨-, t, ht, hc, -⟩, -, -⟩, -⟩
  cases ht
  exact absurd (show (-128 : ℤ) = -(gatherExP.lp 1 [.num 10, .num 5] (.num 31)) from hc) (by decide)

/-- (`seeded/C12_3`) gathering choices, scores and return values of the particles but NOT the mapped
    arguments recorded with the trace yields an INCOHERENT trace; all other hypotheses of
    `vmap_gather_coherent` hold. -/
theorem vmap_gather_args_needed :
    ∃ (P : Prims ℤ) (g : GF) (axes : List Bool) (n : Nat) (args : List Val) (lanes : TrL ℤ)
      (idx : List Nat),
      (GF.vmap g axes n).Coh P args (.vec lanes) ∧ (∀ i ∈ idx, i < n) ∧ idx.length = n ∧
      (GF.vmap g axes idx.length).Coh P (gatherArgs axes idx args) (.vec (lanes.gather idx)) ∧
      ¬ (GF.vmap g axes idx.length).Coh P args (.vec (lanes.gather idx)) := by
  refine ⟨gatherExP, gatherExG, [true, false], 3, gatherExArgs, gatherExLanes, [2, 0, 0],
    gatherEx_coh, by decide, rfl,
    vmap_gather_coherent gatherExP _ _ _ _ _ _ gatherEx_coh (by decide), gatherEx_not_coh⟩

end Genjax

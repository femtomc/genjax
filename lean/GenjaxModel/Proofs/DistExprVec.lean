import GenjaxModel.Proofs.DistExpr
/-!
# C13 — the vector-argument entries of the spec table (fixed small dimension)

`spec_categorical3`, `spec_multinomial3`, `spec_dirichlet3`, `spec_multivariate_normal2` denote the
general-dimension densities of `Proofs/DistSpec.lean`, `DistSpec3..5.lean` instantiated at
dimension 3 (resp. 2); parameters and point coordinates are flattened in the documented order.
-/
namespace Genjax.DistSpec
open Real DE DistExpr Matrix

theorem spec_categorical3_denotes (θ : Fin 3 → ℝ) (k : Fin 3) :
    spec_categorical3.denote [θ 0, θ 1, θ 2] ((k : ℕ) : ℝ) = categoricalPmf θ k := by
  simp only [spec_categorical3, denote, denoteV, categoricalPmf, Fin.sum_univ_three,
    List.getD_cons_zero, List.getD_cons_succ, Rat.cast_one, Rat.cast_ofNat, Nat.cast_lt_one,
    Nat.cast_lt_ofNat]
  -- the nested comparison `k < 1`, `k < 2` selects `θ k`
  match k with
  | 0 => rfl
  | 1 => rfl
  | 2 => rfl

/-- the term's two guards `Σk ≤ n`, `n ≤ Σk` are the density's `Σk = n` -/
theorem spec_multinomial3_denotes (n : ℕ) (p : Fin 3 → ℝ) (k : Fin 3 → ℕ) :
    spec_multinomial3.denoteV [(n : ℝ), p 0, p 1, p 2] [(k 0 : ℝ), (k 1 : ℝ), (k 2 : ℝ)] =
      multinomialPmf n p k := by
  simp only [spec_multinomial3, denoteV, multinomialPmf, Fin.sum_univ_three, Fin.prod_univ_three,
    List.getD_cons_zero, List.getD_cons_succ, ← Nat.cast_add, Nat.cast_le, ← ite_and,
    le_antisymm_iff, Nat.floor_natCast, Real.rpow_natCast, Rat.cast_zero]

theorem spec_dirichlet3_denotes (α x : Fin 3 → ℝ) :
    spec_dirichlet3.denoteV [α 0, α 1, α 2] [x 0, x 1, x 2] = dirichletPdf α x := by
  simp only [spec_dirichlet3, denoteV, dirichletPdf, Fin.sum_univ_three, Fin.prod_univ_three,
    List.getD_cons_zero, List.getD_cons_succ, Rat.cast_one]

/-- the quadratic form of a 2×2 matrix through its adjugate -/
theorem mvn2_quadform (μ x : Fin 2 → ℝ) (S : Matrix (Fin 2) (Fin 2) ℝ) :
    (x - μ) ⬝ᵥ (S⁻¹ *ᵥ (x - μ)) =
      ((x 0 - μ 0) * (S 1 1 * (x 0 - μ 0) - S 0 1 * (x 1 - μ 1)) +
        (x 1 - μ 1) * (S 0 0 * (x 1 - μ 1) - S 1 0 * (x 0 - μ 0))) /
        (S 0 0 * S 1 1 - S 0 1 * S 1 0) := by
  rw [Matrix.inv_def, Ring.inverse_eq_inv', Matrix.det_fin_two, Matrix.adjugate_fin_two]
  simp only [dotProduct, mulVec, Fin.sum_univ_two, Matrix.smul_apply, Matrix.of_apply,
    Matrix.cons_val', Matrix.cons_val_zero, Matrix.cons_val_one, Matrix.cons_val_fin_one,
    Pi.sub_apply, smul_eq_mul]
  ring

theorem spec_multivariate_normal2_denotes (μ x : Fin 2 → ℝ) (S : Matrix (Fin 2) (Fin 2) ℝ) :
    spec_multivariate_normal2.denoteV [μ 0, μ 1, S 0 0, S 0 1, S 1 0, S 1 1] [x 0, x 1] =
      multivariateNormalPdf μ S x := by
  rw [multivariateNormalPdf, mvn2_quadform, Matrix.det_fin_two]
  simp only [spec_multivariate_normal2, mvn2_det, denoteV, List.getD_cons_zero,
    List.getD_cons_succ, Rat.cast_one, Rat.cast_ofNat, Nat.cast_ofNat]

end Genjax.DistSpec

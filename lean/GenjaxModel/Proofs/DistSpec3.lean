import GenjaxModel.Proofs.DistSpec
import Mathlib.Analysis.Analytic.Binomial
import Mathlib.Analysis.SpecialFunctions.Gamma.Basic
import Mathlib.Data.Nat.Choose.Multinomial
import Mathlib.Algebra.Order.Antidiag.Pi
import Mathlib.NumberTheory.LSeries.RiemannZeta
import Mathlib.Analysis.PSeries
/-!
  C13: documented mass functions of the built-in discrete distributions negative_binomial,
  multinomial, zipf and their normalisation.  Same conventions as
  `DistSpec.lean`.
-/
open Real

namespace Genjax.DistSpec

/-- negative_binomial(total_count r, probs p): number of successes (probability p each) before the
`r`-th failure; `r` may be any positive real, `C(k+r−1, k)` is the generalised binomial coefficient -/
noncomputable def negativeBinomialPmf (r p : ℝ) (k : ℕ) : ℝ :=
  Ring.choose (r + k - 1) k * p ^ k * (1 - p) ^ r

theorem negativeBinomial_normalised (r p : ℝ) (hp0 : 0 ≤ p) (hp1 : p < 1) :
    HasSum (negativeBinomialPmf r p) 1 := by
  -- the binomial series `Σ_k C(r+k−1, k) p^k = (1 − p)^(−r)` for `|p| < 1`, times `(1 − p)^r`
  have hball : p ∈ Metric.eball (0 : ℝ) 1 := by
    rw [Metric.mem_eball, edist_zero_right, Real.enorm_eq_ofReal hp0]
    exact ENNReal.ofReal_lt_one.mpr hp1
  have h := (Real.one_div_one_sub_rpow_hasFPowerSeriesOnBall_zero r).hasSum hball
  simp only [FormalMultilinearSeries.ofScalars_apply_eq, zero_add, smul_eq_mul] at h
  have h2 := h.mul_right ((1 - p) ^ r)
  have hpos : (0:ℝ) < (1 - p) ^ r := Real.rpow_pos_of_pos (sub_pos.2 hp1) r
  rw [one_div, inv_mul_cancel₀ hpos.ne'] at h2
  exact h2

/-- for an integer number of failures the coefficient is the ordinary binomial coefficient -/
theorem negativeBinomial_nat (r : ℕ) (hr : 0 < r) (p : ℝ) (k : ℕ) :
    negativeBinomialPmf r p k = ((k + r - 1).choose k : ℝ) * p ^ k * (1 - p) ^ r := by
  simp only [negativeBinomialPmf, Real.rpow_natCast]
  rw [← Ring.choose_natCast, Nat.cast_sub (Nat.le_add_left_of_le hr), Nat.cast_add, Nat.cast_one,
    add_comm (k : ℝ)]

theorem Gamma_add_natCast (r : ℝ) (hr : 0 < r) (k : ℕ) :
    Real.Gamma (r + k) = Real.Gamma r * (ascPochhammer ℝ k).eval r := by
  induction k with
  | zero => simp
  | succ k ih =>
    rw [Nat.cast_succ, ← add_assoc,
      Real.Gamma_add_one (add_pos_of_pos_of_nonneg hr (Nat.cast_nonneg k)).ne', ih,
      ascPochhammer_succ_right]
    simp only [Polynomial.eval_mul, Polynomial.eval_add, Polynomial.eval_X, Polynomial.eval_natCast]
    ring

/-- the same mass function written with Γ (the form used by TFP): Γ(k+r)/(k! Γ(r)) p^k (1−p)^r -/
theorem negativeBinomial_eq_Gamma (r p : ℝ) (hr : 0 < r) (k : ℕ) :
    negativeBinomialPmf r p k =
      Real.Gamma (k + r) / (k.factorial * Real.Gamma r) * p ^ k * (1 - p) ^ r := by
  simp only [negativeBinomialPmf]
  congr 2
  rw [← Ring.multichoose_eq, add_comm (k:ℝ) r, Gamma_add_natCast r hr k]
  have h := Ring.factorial_nsmul_multichoose_eq_ascPochhammer r k
  rw [Polynomial.ascPochhammer_smeval_eq_eval, nsmul_eq_mul] at h
  have hG : Real.Gamma r ≠ 0 := (Real.Gamma_pos_of_pos hr).ne'
  have hk : (k.factorial : ℝ) ≠ 0 := by positivity
  rw [← h]
  generalize Ring.multichoose r k = M
  field_simp

theorem negativeBinomialPmf_nonneg (r p : ℝ) (hr : 0 < r) (hp0 : 0 ≤ p) (hp1 : p < 1) (k : ℕ) :
    0 ≤ negativeBinomialPmf r p k := by
  rw [negativeBinomial_eq_Gamma r p hr k]
  exact mul_nonneg (mul_nonneg (div_nonneg
    (Real.Gamma_pos_of_pos (add_pos_of_nonneg_of_pos (Nat.cast_nonneg k) hr)).le
    (mul_nonneg (Nat.cast_nonneg _) (Real.Gamma_pos_of_pos hr).le)) (pow_nonneg hp0 k))
    (Real.rpow_nonneg (sub_nonneg.2 hp1.le) r)

/-- multinomial(total_count n, probs p) on count vectors `k : Fin m → ℕ`:
n!/(k₁!…k_m!) ∏ p_i^{k_i} when the counts add up to `n`, zero otherwise -/
noncomputable def multinomialPmf {m : ℕ} (n : ℕ) (p : Fin m → ℝ) (k : Fin m → ℕ) : ℝ :=
  if ∑ i, k i = n then (n.factorial : ℝ) / (∏ i, ((k i).factorial : ℝ)) * ∏ i, p i ^ k i else 0

theorem multinomialPmf_nonneg {m : ℕ} (n : ℕ) (p : Fin m → ℝ) (hp : ∀ i, 0 ≤ p i) (k : Fin m → ℕ) :
    0 ≤ multinomialPmf n p k :=
  ite_zero_nonneg fun _ => mul_nonneg
    (div_nonneg (Nat.cast_nonneg _) (Finset.prod_nonneg (fun _ _ => Nat.cast_nonneg _)))
    (Finset.prod_nonneg (fun i _ => pow_nonneg (hp i) _))

/-- the multinomial theorem -/
theorem multinomial_normalised_finset {m : ℕ} (n : ℕ) (p : Fin m → ℝ) (hp : ∑ i, p i = 1) :
    ∑ k ∈ Finset.piAntidiag Finset.univ n, multinomialPmf n p k = 1 := by
  have h := Finset.sum_pow_eq_sum_piAntidiag Finset.univ p n
  rw [hp, one_pow] at h
  rw [h]
  refine Finset.sum_congr rfl (fun k hk => ?_)
  have hk' : ∑ i, k i = n := (Finset.mem_piAntidiag.mp hk).1
  simp only [multinomialPmf, if_pos hk']
  congr 1
  have hs := Nat.multinomial_spec Finset.univ k
  rw [hk'] at hs
  have hne : (∏ i, ((k i).factorial : ℝ)) ≠ 0 :=
    Finset.prod_ne_zero_iff.mpr (fun i _ => by positivity)
  rw [div_eq_iff hne, ← hs]
  push_cast
  ring

theorem multinomial_normalised {m : ℕ} (n : ℕ) (p : Fin m → ℝ) (hp : ∑ i, p i = 1) :
    HasSum (multinomialPmf n p) 1 := by
  rw [← multinomial_normalised_finset n p hp]
  refine hasSum_sum_of_ne_finset_zero (fun k hk => ?_)
  have : ¬ ∑ i, k i = n := fun h => hk (Finset.mem_piAntidiag.mpr ⟨h, fun i _ => Finset.mem_univ i⟩)
  simp only [multinomialPmf, if_neg this]

/-- two categories: the binomial distribution -/
theorem multinomial_two_eq_binomial (n : ℕ) (p : ℝ) (k : ℕ) (hk : k ≤ n) :
    multinomialPmf n ![p, 1 - p] ![k, n - k] = binomialPmf n p k := by
  have hsum : ∑ i, (![k, n - k] : Fin 2 → ℕ) i = n := by
    rw [Fin.sum_univ_two]; exact Nat.add_sub_cancel' hk
  simp only [multinomialPmf, binomialPmf, if_pos hsum, Fin.prod_univ_two, Matrix.cons_val_zero,
    Matrix.cons_val_one]
  rw [Nat.cast_choose ℝ hk]
  ring

/-- zipf(power s): P(k) = k^{−s} / ζ(s), k = 1,2,… -/
noncomputable def zipfPmf (s : ℝ) (k : ℕ) : ℝ :=
  if 1 ≤ k then (k : ℝ) ^ (-s) / (riemannZeta (s : ℂ)).re else 0

theorem zeta_re_eq_tsum (s : ℝ) (hs : 1 < s) :
    (riemannZeta (s : ℂ)).re = ∑' n : ℕ, 1 / (n : ℝ) ^ s := by
  rw [zeta_eq_tsum_one_div_nat_cpow (by simpa using hs)]
  have : ∀ n : ℕ, (1 : ℂ) / (n : ℂ) ^ (s : ℂ) = ((1 / (n : ℝ) ^ s : ℝ) : ℂ) := by
    intro n
    rw [Complex.ofReal_div, Complex.ofReal_one, Complex.ofReal_cpow (Nat.cast_nonneg n),
      Complex.ofReal_natCast]
  simp_rw [this]
  rw [← Complex.ofReal_tsum, Complex.ofReal_re]

/-- the mass function with the Dirichlet series for ζ(s); at `k = 0` both sides vanish -/
theorem zipfPmf_eq (s : ℝ) (hs : 1 < s) (k : ℕ) :
    zipfPmf s k = 1 / (k : ℝ) ^ s / ∑' n : ℕ, 1 / (n : ℝ) ^ s := by
  rw [zipfPmf, zeta_re_eq_tsum s hs]
  split_ifs with hk
  · rw [Real.rpow_neg (Nat.cast_nonneg k), one_div]
  · rw [Nat.lt_one_iff.1 (not_le.1 hk), Nat.cast_zero, Real.zero_rpow (zero_lt_one.trans hs).ne',
      div_zero, zero_div]

theorem zipfPmf_nonneg (s : ℝ) (hs : 1 < s) (k : ℕ) : 0 ≤ zipfPmf s k := by
  have h : ∀ n : ℕ, 0 ≤ 1 / (n : ℝ) ^ s := fun n =>
    one_div_nonneg.2 (Real.rpow_nonneg (Nat.cast_nonneg n) s)
  rw [zipfPmf_eq s hs]
  exact div_nonneg (h k) (tsum_nonneg h)

theorem zipf_normalised (s : ℝ) (hs : 1 < s) : HasSum (zipfPmf s) 1 := by
  have hsum : Summable (fun n : ℕ => 1 / (n : ℝ) ^ s) := Real.summable_one_div_nat_rpow.mpr hs
  have hpos : 0 < ∑' n : ℕ, 1 / (n : ℝ) ^ s :=
    hsum.tsum_pos (fun n => one_div_nonneg.2 (Real.rpow_nonneg (Nat.cast_nonneg n) s)) 1
      (by rw [Nat.cast_one, Real.one_rpow, div_one]; exact one_pos)
  have h := hsum.hasSum.div_const (∑' n : ℕ, 1 / (n : ℝ) ^ s)
  rwa [div_self hpos.ne', ← funext (zipfPmf_eq s hs)] at h

end Genjax.DistSpec

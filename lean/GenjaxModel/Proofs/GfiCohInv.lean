import GenjaxModel.Proofs.GfiDefs
import GenjaxModel.Proofs.GfiInv
/-!
  What every operation of the model establishes of the trace it returns: the trace is coherent
  for the arguments of the call and has canonical shape (`GF.Canon`: one entry per call
  site in program order, lanes and steps keyed `""`).  One induction per operation proves both
  (`simulate_built`, `generate_built`, `update_built`, `regenerate_built`), with `BodyInv` and
  `BodyCanonInv` as invariants of the handler loops over a body's call sites; a `generate` without
  constraints is a `simulate` (`generate_none_simulate`), so `generate_built` speaks of `some x`.
-/
namespace Genjax
variable {R : Type}

/-! ### lists of sub-traces -/

theorem TrL.find?_snoc (subs : TrL R) (k : String) (t : Tr R) (a : String) :
    (subs.snoc k t).find? a =
      match subs.find? a with
      | some v => some v
      | none => if a = k then some t else none := by
  induction subs using TrL.list_induction with
  | nil => rfl
  | cons k' t' rest ih =>
    unfold TrL.snoc TrL.find?
    split
    · rfl
    · exact ih

theorem TrL.find?_snoc_of_some {subs : TrL R} {a k : String} {t t' : Tr R}
    (h : subs.find? a = some t) : (subs.snoc k t').find? a = some t := by
  rw [TrL.find?_snoc, h]

theorem TrL.find?_snoc_self {subs : TrL R} {k : String} {t : Tr R}
    (h : subs.find? k = none) : (subs.snoc k t).find? k = some t := by
  rw [TrL.find?_snoc, h]
  exact if_pos rfl

theorem TrL.find?_snoc_none {subs : TrL R} {k a : String} {t : Tr R}
    (h : subs.find? a = none) (hne : a ≠ k) : (subs.snoc k t).find? a = none := by
  rw [TrL.find?_snoc, h]
  exact if_neg hne

theorem TrL.find?_snoc_isSome (subs : TrL R) (k : String) (t : Tr R) (a : String) :
    ((subs.snoc k t).find? a).isSome = ((subs.find? a).isSome || decide (a = k)) := by
  rw [TrL.find?_snoc]
  cases subs.find? a with
  | some v => rfl
  | none => by_cases h : a = k <;> simp [h]

theorem TrL.toList_ofList : ∀ (ts : List (Tr R)), (TrL.ofList ts).toList = ts
  | [] => rfl
  | t :: ts => congrArg (t :: ·) (TrL.toList_ofList ts)

theorem sumR_map_eq_zero [AddZeroClass R] {β : Type} {w : β → R} {bs : List β}
    (h : ∀ b ∈ bs, w b = 0) : sumR (bs.map w) = 0 := by
  induction bs with
  | nil => rfl
  | cons b bs ih =>
    rw [List.map_cons, sumR, h b List.mem_cons_self,
      ih fun b' hb' => h b' (List.mem_cons_of_mem _ hb'), add_zero]

theorem TrL.scoreSum_eq [Zero R] [Add R] : ∀ (l : TrL R), l.scoreSum = sumR (l.toList.map Tr.score)
  | .nil => rfl
  | .cons _ t rest => congrArg (t.score + ·) (TrL.scoreSum_eq rest)

theorem TrL.scoreSum_ofList [Zero R] [Add R] (l : List (Tr R)) :
    (TrL.ofList l).scoreSum = sumR (l.map Tr.score) := by
  rw [TrL.scoreSum_eq, TrL.toList_ofList]

theorem TrL.retvals_eq : ∀ (l : TrL R), l.retvals = Val.ofList (l.toList.map Tr.retval)
  | .nil => rfl
  | .cons _ t rest => congrArg (Val.cons t.retval) (TrL.retvals_eq rest)

theorem TrL.outs_eq : ∀ (l : TrL R),
    l.outs = Val.ofList ((l.toList.map Tr.retval).map Val.snd)
  | .nil => rfl
  | .cons _ t rest => congrArg (Val.cons t.retval.snd) (TrL.outs_eq rest)

def TrL.append : TrL R → TrL R → TrL R
  | .nil, b => b
  | .cons k t r, b => .cons k t (r.append b)

theorem TrL.snoc_append : ∀ (l : TrL R) (k : String) (t : Tr R) (b : TrL R),
    (l.snoc k t).append b = l.append (.cons k t b)
  | .nil, _, _, _ => rfl
  | .cons k' t' r, k, t, b => congrArg (TrL.cons k' t') (TrL.snoc_append r k t b)

theorem TrL.append_nil : ∀ (l : TrL R), l.append .nil = l
  | .nil => rfl
  | .cons k t r => congrArg (TrL.cons k t) (TrL.append_nil r)

/-! ### canonical shape -/

def lanesCanon (p : Tr R → Prop) : TrL R → Prop
  | .nil => True
  | .cons k t rest => k = "" ∧ p t ∧ lanesCanon p rest

mutual
  /-- the trace has exactly the shape the operations of the model build for the program:
      a Fn node holds one entry per call site, in program order and nothing else; lanes and steps are
      keyed `""` -/
  def GF.Canon : GF → Tr R → Prop
    | .dist _, .leaf _ _ => True
    | .fn body, .fn subs _ _ => body.CanonL subs
    | .vmap g _ _, .vec lanes => lanesCanon (fun t => g.Canon t) lanes
    | .scan g _, .scan steps _ => lanesCanon (fun t => g.Canon t) steps
    | .cond t f, .cond _ a b => t.Canon a ∧ f.Canon b
    | _, _ => False
  def Body.CanonL : Body → TrL R → Prop
    | .ret _, .nil => True
    | .call addr g _ rest, .cons k t tl => k = addr ∧ g.Canon t ∧ rest.CanonL tl
    | _, _ => False
end

theorem lanesCanon_ofList (p : Tr R → Prop) : ∀ (ts : List (Tr R)), (∀ t ∈ ts, p t) →
    lanesCanon p (TrL.ofList ts)
  | [], _ => trivial
  | t :: ts, h =>
    ⟨rfl, h t List.mem_cons_self,
      lanesCanon_ofList p ts fun t' ht' => h t' (List.mem_cons_of_mem _ ht')⟩

theorem lanesCanon_map {β : Type} (p : Tr R → Prop) (bs : List β) (proj : β → Tr R)
    (h : ∀ b ∈ bs, p (proj b)) : lanesCanon p (TrL.ofList (bs.map proj)) :=
  lanesCanon_ofList p _ (List.forall_mem_map.mpr h)

/-- the handler loops append the body's call sites, in order, to the accumulated sub-traces -/
def BodyCanonInv (b : Body) (subs subsF : TrL R) : Prop :=
  ∃ tl : TrL R, b.CanonL tl ∧ subsF = subs.append tl

theorem BodyCanonInv.ret (e : Expr) (subs : TrL R) : BodyCanonInv (.ret e) subs subs :=
  ⟨.nil, trivial, (TrL.append_nil subs).symm⟩

theorem BodyCanonInv.call {addr : String} {g : GF} {es : List Expr} {rest : Body}
    {subs subsF : TrL R} {t : Tr R} (hg : g.Canon t) (h : BodyCanonInv rest (subs.snoc addr t) subsF) :
    BodyCanonInv (.call addr g es rest) subs subsF := by
  obtain ⟨tl, hc, rfl⟩ := h
  exact ⟨.cons addr t tl, ⟨rfl, hg, hc⟩, TrL.snoc_append _ _ _ _⟩

theorem BodyCanonInv.final {b : Body} {subsF : TrL R} (h : BodyCanonInv b .nil subsF) :
    b.CanonL subsF := by
  obtain ⟨tl, hc, rfl⟩ := h
  exact hc

/-! ### coherence of lanes and steps -/

theorem lanesCoh_iff (coh : List Val → Tr R → Prop) (axes : List Bool) (args : List Val) :
    ∀ (l : List (Tr R)) (s : Nat),
      lanesCoh coh axes args s l ↔ ∀ k t, l[k]? = some t → coh (laneArgs axes args (s + k)) t
  | [], _ => ⟨fun _ _ _ h => (nomatch h), fun _ => trivial⟩
  | x :: xs, s => by
    constructor
    · rintro ⟨h0, h1⟩ (_ | k) t hk
      · cases hk
        exact h0
      · exact Nat.add_right_comm s 1 k ▸ (lanesCoh_iff coh axes args xs (s + 1)).mp h1 k t hk
    · intro h
      exact ⟨h 0 x rfl, (lanesCoh_iff coh axes args xs (s + 1)).mpr fun k t hk =>
        Nat.add_right_comm s 1 k ▸ h (k + 1) t hk⟩

theorem lanesCoh_forall {coh : List Val → Tr R → Prop} {axes : List Bool} {args : List Val}
    {ts : List (Tr R)} {i : Nat} (h : lanesCoh coh axes args i ts) : ∀ t ∈ ts, ∃ a, coh a t := by
  induction ts generalizing i with
  | nil => exact fun _ ht => nomatch ht
  | cons t0 ts ih => exact List.forall_mem_cons.mpr ⟨⟨_, h.1⟩, ih h.2⟩

theorem stepsCoh_forall {coh : List Val → Tr R → Prop} {xs : Val} {ts : List (Tr R)} {c : Val}
    {i : Nat} {c' : Val} (h : stepsCoh coh xs c i ts c') : ∀ t ∈ ts, ∃ a, coh a t := by
  induction ts generalizing c i with
  | nil => exact fun _ ht => nomatch ht
  | cons t0 ts ih => exact List.forall_mem_cons.mpr ⟨⟨_, h.1⟩, ih h.2⟩

/-! ### a trace assembled from the results of a loop -/

theorem forLanes_lanesCoh {α β : Type} (f : Nat → α → Option β) (proj : β → Tr R)
    (coh : List Val → Tr R → Prop) (axes : List Bool) (args : List Val)
    (hf : ∀ j a b, f j a = some b → coh (laneArgs axes args j) (proj b))
    {l : List α} {i : Nat} {bs : List β} (h : forLanes f i l = some bs) :
    lanesCoh coh axes args i (bs.map proj) :=
  forLanes_induction (motive := fun i _ bs => lanesCoh coh axes args i (bs.map proj))
    (fun _ => trivial) (fun i a _ b _ hb _ ih => ⟨hf i a b hb, ih⟩) h

theorem forSteps_stepsCoh {α β : Type} (f : Val → Nat → α → Option (β × Val))
    (proj : β → Tr R) (coh : List Val → Tr R → Prop) (xs : Val)
    (hf : ∀ c j a b c2, f c j a = some (b, c2) →
      coh [c, xs.nth j] (proj b) ∧ c2 = (proj b).retval.fst)
    {l : List α} {c : Val} {i : Nat} {bs : List β} {c' : Val}
    (h : forSteps f c i l = some (bs, c')) : stepsCoh coh xs c i (bs.map proj) c' :=
  forSteps_induction (motive := fun c i _ bs c' => stepsCoh coh xs c i (bs.map proj) c')
    (fun _ _ => rfl)
    (fun c i a _ b c1 _ _ hb _ ih => ⟨(hf c i a b c1 hb).1, (hf c i a b c1 hb).2 ▸ ih⟩) h

section Built
variable [Zero R] [Add R] [Neg R] (P : Prims R)

theorem vmap_built {α β : Type} {f : Nat → α → Option β} (proj : β → Tr R) {g : GF}
    {axes : List Bool} {n : Nat} {args : List Val} {l : List α} {bs : List β} {ts : List (Tr R)}
    (hf : ∀ j a b, f j a = some b → g.Coh P (laneArgs axes args j) (proj b) ∧ g.Canon (proj b))
    (hn : l.length = n) (h : forLanes f 0 l = some bs) (hts : ts = bs.map proj) :
    (GF.vmap g axes n).Coh P args (.vec (TrL.ofList ts)) ∧
      (GF.vmap g axes n).Canon (.vec (TrL.ofList ts)) := by
  subst hts
  refine ⟨And.intro ?_ ?_,
    lanesCanon_map _ _ _ (forLanes_forall (fun j a b hb => (hf j a b hb).2) h)⟩
  · rw [TrL.toList_ofList, List.length_map, forLanes_length h, hn]
  · rw [TrL.toList_ofList]
    exact forLanes_lanesCoh f proj _ axes args (fun j a b hb => (hf j a b hb).1) h

theorem scan_built {α β : Type} {f : Val → Nat → α → Option (β × Val)} (proj : β → Tr R)
    {g : GF} {n : Nat} {args : List Val} {l : List α} {bs : List β} {c : Val} {ts : List (Tr R)}
    (hf : ∀ c j a b c2, f c j a = some (b, c2) →
      (g.Coh P [c, (args.getD 1 .nil).nth j] (proj b) ∧ g.Canon (proj b)) ∧
        c2 = (proj b).retval.fst)
    (hn : l.length = n) (h : forSteps f (args.getD 0 .nil) 0 l = some (bs, c))
    (hts : ts = bs.map proj) :
    (GF.scan g n).Coh P args (.scan (TrL.ofList ts) c) ∧
      (GF.scan g n).Canon (.scan (TrL.ofList ts) c) := by
  subst hts
  refine ⟨And.intro ?_ ?_,
    lanesCanon_map _ _ _ (forSteps_forall (fun c j a b c2 hb => (hf c j a b c2 hb).1.2) h)⟩
  · rw [TrL.toList_ofList, List.length_map, forSteps_length h, hn]
  · rw [TrL.toList_ofList]
    exact forSteps_stepsCoh f proj _ _
      (fun c j a b c2 hb => ⟨(hf c j a b c2 hb).1.1, (hf c j a b c2 hb).2⟩) h

/-! ### the handler loops of a body -/

theorem Body.retOf_call {addr : String} {g : GF} {es : List Expr} {rest : Body}
    {env : List Val} {subs : TrL R} {t : Tr R} (h : subs.find? addr = some t) :
    (Body.call addr g es rest).retOf env subs = rest.retOf (env ++ [t.retval]) subs := by
  simp only [Body.retOf, h]

theorem Body.scoreOf_call {addr : String} {g : GF} {es : List Expr} {rest : Body}
    {subs : TrL R} {t : Tr R} (h : subs.find? addr = some t) :
    (Body.call addr g es rest).scoreOf subs = t.score + rest.scoreOf subs := by
  simp only [Body.scoreOf, h]

end Built

section Coh
variable [AddCommGroup R] (P : Prims R) (cfg : Cfg)

def BodyInv (b : Body) (env : List Val) (subs : TrL R) (s : R) (subs' : TrL R) (r : Val) (s' : R) :
    Prop :=
  (∀ a t, subs.find? a = some t → subs'.find? a = some t) ∧
  (∀ a, (subs.find? a).isSome → a ∉ b.addrs) ∧
  b.Coh P env subs' ∧ r = b.retOf env subs' ∧ s' = s + b.scoreOf subs'

theorem BodyInv.ret (e : Expr) (env : List Val) (subs : TrL R) (s : R) :
    BodyInv P (.ret e) env subs s subs (e.eval env) s :=
  ⟨fun _ _ h => h, fun _ _ => List.not_mem_nil, trivial, rfl, (add_zero s).symm⟩

theorem BodyInv.call {addr : String} {g : GF} {es : List Expr} {rest : Body} {env : List Val}
    {subs : TrL R} {s : R} {t : Tr R} {subs' : TrL R} {r : Val} {s' : R}
    (hn : (subs.find? addr).isSome = false)
    (hg : g.Coh P (es.map (·.eval env)) t)
    (h : BodyInv P rest (env ++ [t.retval]) (subs.snoc addr t) (s + t.score) subs' r s') :
    BodyInv P (.call addr g es rest) env subs s subs' r s' := by
  obtain ⟨hmono, hfresh, hcoh, hr, hs⟩ := h
  have hn' : subs.find? addr = none :=
    Option.isNone_iff_eq_none.mp (Option.isSome_eq_false_iff.mp hn)
  have hself : subs'.find? addr = some t := hmono _ _ (TrL.find?_snoc_self hn')
  have hnew : addr ∉ rest.addrs := hfresh _ (by rw [TrL.find?_snoc_self hn']; rfl)
  refine ⟨fun a u h => hmono _ _ (TrL.find?_snoc_of_some h), fun a ha => ?_,
    ⟨hnew, t, hself, hg, hcoh⟩, ?_, ?_⟩
  · obtain ⟨u, hu⟩ := Option.isSome_iff_exists.mp ha
    refine List.not_mem_cons_of_ne_of_not_mem ?_ (hfresh a (by rw [TrL.find?_snoc_of_some hu]; rfl))
    rintro rfl
    rw [hn'] at hu
    cases hu
  · rw [Body.retOf_call hself]
    exact hr
  · rw [Body.scoreOf_call hself, hs]
    exact add_assoc _ _ _

theorem BodyInv.final {b : Body} {env : List Val} {subs : TrL R} {r : Val} {s : R}
    (h : BodyInv P b env .nil 0 subs r s) :
    b.Coh P env subs ∧ r = b.retOf env subs ∧ s = b.scoreOf subs :=
  ⟨h.2.2.1, h.2.2.2.1, h.2.2.2.2.trans (zero_add _)⟩

/-! ### `generate` without constraints -/

theorem generate_none_simulate (g : GF) : ∀ (args : List Val) (t : Tr R) (w : R),
    g.generate P cfg none args = some (t, w) → g.simulate P args = some t ∧ w = 0 := by
  refine GF.rec (motive_1 := fun g => ∀ (args : List Val) (t : Tr R) (w : R),
      g.generate P cfg none args = some (t, w) → g.simulate P args = some t ∧ w = 0)
    (motive_2 := fun _ => True) ?_ ?_ ?_ ?_ ?_ (fun _ => trivial) (fun _ _ _ _ _ _ => trivial) g
  · intro d args t w h
    cases h
    exact ⟨rfl, rfl⟩
  · intro body _ args t w h
    obtain ⟨subs, r, s, hb, rfl, rfl⟩ := generate_fn_none_inv P cfg h
    exact ⟨(simulate_fn_iff P).mpr ⟨_, _, _, hb, rfl⟩, rfl⟩
  · intro g axes n ih args t w h
    obtain ⟨-, ts, hts, rfl, rfl⟩ := generate_vmap_none_inv P cfg h
    exact ⟨(simulate_vmap_iff P).mpr
        ⟨_, forLanes_some_map (fun _ _ b hb => (ih _ b.1 b.2 hb).1) hts, rfl⟩,
      sumR_map_eq_zero (forLanes_forall (fun _ _ b hb => (ih _ b.1 b.2 hb).2) hts)⟩
  · intro g n ih args t w h
    obtain ⟨ts, c, hts, rfl, rfl⟩ := generate_scan_none_inv P cfg h
    have hstep : ∀ c i (u : Unit) (b : Tr R × R) c',
        genStep P cfg g args (fun _ => none) c i u = some (b, c') →
        simStep P g args c i u = some (b.1, c') ∧ b.2 = 0 := by
      intro c i u b c' hb
      obtain ⟨h1, rfl⟩ := genStep_some P cfg hb
      exact ⟨Option.bind_eq_some_iff.mpr ⟨_, (ih _ b.1 b.2 h1).1, rfl⟩, (ih _ b.1 b.2 h1).2⟩
    exact ⟨(simulate_scan_iff P).mpr
        ⟨_, _, forSteps_some_map (fun c i u b c' hb => (hstep c i u b c' hb).1) hts, rfl⟩,
      sumR_map_eq_zero (forSteps_forall (fun c i u b c' hb => (hstep c i u b c' hb).2) hts)⟩
  · intro tg fg _ _ args t w h
    obtain ⟨a, b, ha, hb, rfl, rfl⟩ := generate_cond_none_inv P cfg h
    exact ⟨(simulate_cond_iff P).mpr ⟨_, _, ha, hb, rfl⟩, rfl⟩

/-! ### one induction per operation -/

theorem simulate_built :
    (∀ (g : GF) {args : List Val} {t : Tr R},
      g.simulate P args = some t → g.Coh P args t ∧ g.Canon t) ∧
    ∀ (b : Body) {env : List Val} {subs : TrL R} {s : R} {r : TrL R × Val × R},
      b.simulate P env subs s = some r →
        BodyInv P b env subs s r.1 r.2.1 r.2.2 ∧ BodyCanonInv b subs r.1 := by
  refine GF.rec_both ?_ ?_ ?_ ?_ ?_ ?_ ?_
  · intro d args t h
    cases h
    exact ⟨rfl, trivial⟩
  · intro body ihb args t h
    obtain ⟨subs, r, s, hb, rfl⟩ := (simulate_fn_iff P).mp h
    exact ⟨(ihb hb).1.final, (ihb hb).2.final⟩
  · intro g axes n ih args t h
    obtain ⟨ts, hts, rfl⟩ := (simulate_vmap_iff P).mp h
    exact vmap_built P id (fun _ _ _ hb => ih hb) List.length_replicate hts (List.map_id _).symm
  · intro g n ih args t h
    obtain ⟨ts, c, hts, rfl⟩ := (simulate_scan_iff P).mp h
    exact scan_built P id
      (fun _ _ _ _ _ hb => ⟨ih (simStep_some P hb).1, (simStep_some P hb).2⟩)
      List.length_replicate hts (List.map_id _).symm
  · intro tg fg iht ihf args t h
    obtain ⟨a, b, ha, hb, rfl⟩ := (simulate_cond_iff P).mp h
    exact ⟨And.intro rfl ⟨(iht ha).1, (ihf hb).1⟩, (iht ha).2, (ihf hb).2⟩
  · intro e env subs s r h
    cases h
    exact ⟨.ret P e env subs s, .ret e subs⟩
  · intro addr g es rest ihg ihr env subs s r h
    obtain ⟨hn, t, ht, hrest⟩ := simulate_call_inv P h
    exact ⟨.call P (congrArg Option.isSome hn) (ihg ht).1 (ihr hrest).1,
      .call (ihg ht).2 (ihr hrest).2⟩

theorem generate_built :
    (∀ (g : GF) {x : CM} {args : List Val} {r : Tr R × R},
      g.generate P cfg (some x) args = some r → g.Coh P args r.1 ∧ g.Canon r.1) ∧
    ∀ (b : Body) {x : CML} {env : List Val} {subs : TrL R} {s w : R} {r : TrL R × Val × R × R},
      b.generate P cfg x env subs s w = some r →
        BodyInv P b env subs s r.1 r.2.1 r.2.2.1 ∧ BodyCanonInv b subs r.1 := by
  refine GF.rec_both ?_ ?_ ?_ ?_ ?_ ?_ ?_
  · rintro d x args ⟨t, w⟩ h
    obtain ⟨v, rfl, rfl, rfl⟩ := generate_dist_inv P cfg h
    exact ⟨rfl, trivial⟩
  · rintro body ihb x args ⟨t, w⟩ h
    obtain ⟨kids, subs, r, s, rfl, hb, rfl⟩ := generate_fn_inv P cfg h
    exact ⟨(ihb hb).1.final, (ihb hb).2.final⟩
  · rintro g axes n ih x args ⟨t, w⟩ h
    obtain ⟨xs, ts, rfl, hlen, hts, rfl, rfl⟩ := generate_vmap_inv P cfg h
    exact vmap_built P (·.1) (fun _ _ _ hb => ih hb) hlen hts rfl
  · rintro g n ih x args ⟨t, w⟩ h
    obtain ⟨xs, ts, c, rfl, hlen, hts, rfl, rfl⟩ := generate_scan_inv P cfg h
    exact scan_built P (·.1) (fun _ _ _ _ _ hb =>
      ⟨ih (genStep_some P cfg hb).1, (genStep_some P cfg hb).2⟩) hlen hts rfl
  · rintro tg fg iht ihf x args ⟨t, w⟩ h
    obtain ⟨a, wa, b, wb, ha, hb, rfl, rfl⟩ := generate_cond_inv P cfg h
    exact ⟨And.intro rfl ⟨(iht ha).1, (ihf hb).1⟩, (iht ha).2, (ihf hb).2⟩
  · intro e x env subs s w r h
    cases h
    exact ⟨.ret P e env subs s, .ret e subs⟩
  · intro addr g es rest ihg ihr x env subs s w r h
    obtain ⟨hn, t, wt, ht, hrest⟩ := generate_call_inv P cfg h
    have hg : g.Coh P (es.map (·.eval env)) t ∧ g.Canon t := by
      cases hx : x.find? addr with
      | none =>
        rw [hx] at ht
        exact (simulate_built P).1 g (generate_none_simulate P cfg g _ _ _ ht).1
      | some c =>
        rw [hx] at ht
        exact ihg ht
    exact ⟨.call P (congrArg Option.isSome hn) hg.1 (ihr hrest).1, .call hg.2 (ihr hrest).2⟩

theorem update_built :
    (∀ (g : GF) {t : Tr R} {x : Option CM} {args : List Val} {r : Upd R},
      g.update P cfg t x args = some r → g.Coh P args r.1 ∧ g.Canon r.1) ∧
    ∀ (b : Body) {old : TrL R} {x : CML} {env : List Val} {subs : TrL R} {s w : R} {d : CML}
      {r : TrL R × Val × R × R × CML}, b.update P cfg old x env subs s w d = some r →
        BodyInv P b env subs s r.1 r.2.1 r.2.2.1 ∧ BodyCanonInv b subs r.1 := by
  refine GF.rec_both ?_ ?_ ?_ ?_ ?_ ?_ ?_
  · rintro d t x args ⟨t', w, dd⟩ h
    obtain ⟨vOld, sOld, v, rfl, -, rfl, -, -⟩ := update_dist_inv P cfg h
    exact ⟨rfl, trivial⟩
  · rintro body ihb t x args ⟨t', w, dd⟩ h
    obtain ⟨old, r0, s0, kids, subs, r, s, d, rfl, -, hb, rfl, -⟩ := update_fn_inv P cfg h
    exact ⟨(ihb hb).1.final, (ihb hb).2.final⟩
  · rintro g axes n ih t x args ⟨t', w, dd⟩ h
    obtain ⟨old, xs, rs, rfl, hlen, hxs, hrs, rfl, -, -⟩ := update_vmap_inv P cfg h
    refine vmap_built P (·.1) (fun _ _ _ hb => ih hb) ?_ hrs rfl
    rw [List.length_zip, hlen, laneConstraints_length hxs, Nat.min_self]
  · rintro g n ih t x args ⟨t', w, dd⟩ h
    obtain ⟨old, c0, xs, rs, c, rfl, hlen, hxs, hrs, rfl, -, -⟩ := update_scan_inv P cfg h
    refine scan_built P (·.1) (fun _ _ _ _ _ hb =>
      ⟨ih (updStep_some P cfg hb).1, (updStep_some P cfg hb).2⟩) ?_ hrs rfl
    rw [List.length_zip, hlen, laneConstraints_length hxs, Nat.min_self]
  · rintro tg fg iht ihf t x args ⟨t', w, dd⟩ h
    obtain ⟨cOld, a, b, xq, a', wa, da, b', wb, db, rfl, -, ha, hb, rfl, -, -⟩ :=
      update_cond_inv P cfg h
    exact ⟨And.intro rfl ⟨(iht ha).1, (ihf hb).1⟩, (iht ha).2, (ihf hb).2⟩
  · intro e old x env subs s w d r h
    cases h
    exact ⟨.ret P e env subs s, .ret e subs⟩
  · intro addr g es rest ihg ihr old x env subs s w d r h
    obtain ⟨hn, sub, xsub, t, wt, dsub, -, -, ht, hrest⟩ := update_call_inv P cfg h
    exact ⟨.call P (congrArg Option.isSome hn) (ihg ht).1 (ihr hrest).1,
      .call (ihg ht).2 (ihr hrest).2⟩

theorem regenerate_built :
    (∀ (g : GF) {t : Tr R} {sel : Sel} {args : List Val} {r : Upd R},
      g.regenerate P cfg t sel args = some r → g.Coh P args r.1 ∧ g.Canon r.1) ∧
    ∀ (b : Body) {old : TrL R} {sel : Sel} {env : List Val} {subs : TrL R} {s w : R} {d : CML}
      {r : TrL R × Val × R × R × CML}, b.regenerate P cfg old sel env subs s w d = some r →
        BodyInv P b env subs s r.1 r.2.1 r.2.2.1 ∧ BodyCanonInv b subs r.1 := by
  refine GF.rec_both ?_ ?_ ?_ ?_ ?_ ?_ ?_
  · rintro d t sel args ⟨t', w, dd⟩ h
    obtain ⟨vOld, sOld, rfl, ⟨-, rfl, -, -⟩ | ⟨-, rfl, -, -⟩⟩ := regenerate_dist_inv P cfg h
    · exact ⟨rfl, trivial⟩
    · exact ⟨rfl, trivial⟩
  · rintro body ihb t sel args ⟨t', w, dd⟩ h
    obtain ⟨old, r0, s0, subs, r, s, d, rfl, hb, rfl, -⟩ := regenerate_fn_inv P cfg h
    exact ⟨(ihb hb).1.final, (ihb hb).2.final⟩
  · rintro g axes n ih t sel args ⟨t', w, dd⟩ h
    obtain ⟨old, rs, rfl, hlen, hrs, rfl, -, -⟩ := regenerate_vmap_inv P cfg h
    exact vmap_built P (·.1) (fun _ _ _ hb => ih hb) hlen hrs rfl
  · rintro g n ih t sel args ⟨t', w, dd⟩ h
    obtain ⟨old, c0, rs, c, rfl, -, hlen, hrs, rfl, -, -⟩ := regenerate_scan_inv P cfg h
    exact scan_built P (·.1) (fun _ _ _ _ _ hb =>
      ⟨ih (regenStep_some P cfg hb).1, (regenStep_some P cfg hb).2⟩) hlen hrs rfl
  · rintro tg fg iht ihf t sel args ⟨t', w, dd⟩ h
    obtain ⟨cOld, a, b, a', wa, da, b', wb, db, rfl, ha, hb, rfl, -, -⟩ :=
      regenerate_cond_inv P cfg h
    exact ⟨And.intro rfl ⟨(iht ha).1, (ihf hb).1⟩, (iht ha).2, (ihf hb).2⟩
  · intro e old sel env subs s w d r h
    cases h
    exact ⟨.ret P e env subs s, .ret e subs⟩
  · intro addr g es rest ihg ihr old sel env subs s w d r h
    obtain ⟨hn, sub, t, wt, dsub, -, ht, hrest⟩ := regenerate_call_inv P cfg h
    exact ⟨.call P (congrArg Option.isSome hn) (ihg ht).1 (ihr hrest).1,
      .call (ihg ht).2 (ihr hrest).2⟩

/-! ### the invariants, operation by operation -/

theorem simulate_coh (g : GF) (args : List Val) (t : Tr R)
    (h : g.simulate P args = some t) : g.Coh P args t :=
  ((simulate_built P).1 g h).1

theorem simulate_canon (g : GF) :
    ∀ (args : List Val) (t : Tr R), g.simulate P args = some t → g.Canon t :=
  fun _ _ h => ((simulate_built P).1 g h).2

theorem generate_coh (g : GF) (x : Option CM) (args : List Val) (t : Tr R) (w : R)
    (h : g.generate P cfg x args = some (t, w)) : g.Coh P args t := by
  cases x with
  | none => exact simulate_coh P g args t (generate_none_simulate P cfg g args t w h).1
  | some x => exact ((generate_built P cfg).1 g h).1

theorem generate_canon (g : GF) : ∀ (x : Option CM) (args : List Val) (t : Tr R) (w : R),
    g.generate P cfg x args = some (t, w) → g.Canon t
  | none, args, t, w, h => simulate_canon P g args t (generate_none_simulate P cfg g args t w h).1
  | some _, _, _, _, h => ((generate_built P cfg).1 g h).2

theorem body_generate_inv (b : Body) (x : CML) (env : List Val) (subs : TrL R) (s w : R)
    (subs' : TrL R) (r : Val) (s' w' : R)
    (h : b.generate P cfg x env subs s w = some (subs', r, s', w')) :
    BodyInv P b env subs s subs' r s' :=
  ((generate_built P cfg).2 b h).1

theorem generate_canon_body (b : Body) (x : CML) (env : List Val) (subs : TrL R) (s w : R)
    (subs' : TrL R) (r : Val) (s' w' : R)
    (h : b.generate P cfg x env subs s w = some (subs', r, s', w')) :
    BodyCanonInv b subs subs' :=
  ((generate_built P cfg).2 b h).2

theorem update_coh (g : GF) (t : Tr R) (x : Option CM) (args : List Val) (t' : Tr R) (w : R)
    (d : Option CM) (h : g.update P cfg t x args = some (t', w, d)) : g.Coh P args t' :=
  ((update_built P cfg).1 g h).1

theorem update_canon (g : GF) : ∀ (t : Tr R) (x : Option CM) (args : List Val) (t' : Tr R) (w : R)
    (d : Option CM), g.update P cfg t x args = some (t', w, d) → g.Canon t' :=
  fun _ _ _ _ _ _ h => ((update_built P cfg).1 g h).2

theorem body_update_inv : ∀ (b : Body) (old : TrL R) (x : CML) (env : List Val) (subs : TrL R) (s w : R) (d : CML)
    (subs' : TrL R) (r : Val) (s' w' : R) (d' : CML),
    b.update P cfg old x env subs s w d = some (subs', r, s', w', d') → BodyInv P b env subs s subs' r s' :=
  fun b _ _ _ _ _ _ _ _ _ _ _ _ h => ((update_built P cfg).2 b h).1

theorem update_canon_body (b : Body) (old : TrL R) (x : CML) (env : List Val) (subs : TrL R)
    (s w : R) (d : CML) (subs' : TrL R) (r : Val) (s' w' : R) (d' : CML)
    (h : b.update P cfg old x env subs s w d = some (subs', r, s', w', d')) :
    BodyCanonInv b subs subs' :=
  ((update_built P cfg).2 b h).2

theorem regenerate_coh (g : GF) (t : Tr R) (s : Sel) (args : List Val) (t' : Tr R) (w : R)
    (d : Option CM) (h : g.regenerate P cfg t s args = some (t', w, d)) : g.Coh P args t' :=
  ((regenerate_built P cfg).1 g h).1

theorem regenerate_canon (g : GF) : ∀ (t : Tr R) (s : Sel) (args : List Val) (t' : Tr R) (w : R)
    (d : Option CM), g.regenerate P cfg t s args = some (t', w, d) → g.Canon t' :=
  fun _ _ _ _ _ _ h => ((regenerate_built P cfg).1 g h).2

theorem body_regenerate_inv (b : Body) (old : TrL R) (sel : Sel) (env : List Val) (subs : TrL R)
    (s w : R) (d : CML) (subs' : TrL R) (r : Val) (s' w' : R) (d' : CML)
    (h : b.regenerate P cfg old sel env subs s w d = some (subs', r, s', w', d')) :
    BodyInv P b env subs s subs' r s' :=
  ((regenerate_built P cfg).2 b h).1

theorem regenerate_canon_body (b : Body) (old : TrL R) (sel : Sel) (env : List Val)
    (subs : TrL R) (s w : R) (d : CML) (subs' : TrL R) (r : Val) (s' w' : R) (d' : CML)
    (h : b.regenerate P cfg old sel env subs s w d = some (subs', r, s', w', d')) :
    BodyCanonInv b subs subs' :=
  ((regenerate_built P cfg).2 b h).2

end Coh
end Genjax

import GenjaxModel.Model.VmapRuleNest
import GenjaxModel.Proofs.VmapRule
/-!
  The nest model (`Model/VmapRuleNest.lean`) with ONE level is the one-level model of
  `Model/VmapRule.lean` (for which `rule_lanewise` is proved), for every `Cfg`.
-/
namespace Genjax.VmapRule

section OneLevel
variable {ν α β κ : Type} [DecidableEq ν]

def BArg.toN (a : BArg α) : NArg α := ⟨a.arr, [a.bdim]⟩

def Site.toN (s : Site ν α) : NSite ν α :=
  ⟨s.sig, s.sampleShape, s.pos.map BArg.toN, s.kws.map fun kw => (kw.1, kw.2.toN)⟩

theorem moveInner_toN (cfg : Cfg) (a : BArg α) : (moveInner cfg [] a.toN).arr = moveArg cfg a := by
  obtain ⟨arr, _ | d⟩ := a
  · rfl
  · cases h : cfg.moveMappedAxes <;> simp only [moveInner, BArg.toN, moveArg, h] <;> rfl

omit [DecidableEq ν] in
theorem mapped_toN (s : Site ν α) :
    (s.toN.flat.any fun a => a.inner.isSome) = (staticDimLength s.flat).isSome := by
  have : s.toN.flat = s.flat.map BArg.toN := by
    simp only [NSite.flat, Site.flat, Site.toN, List.map_append, List.map_map]
    rfl
  rw [this, List.any_map, Bool.eq_iff_iff, List.any_eq_true, staticDimLength,
    List.findSome?_isSome_iff]
  refine exists_congr fun a => and_congr_right fun _ => ?_
  obtain ⟨arr, _ | d⟩ := a <;> exact Iff.rfl

/-! one level of the nest model re-binds the site as `rule` calls the sampler -/

omit [DecidableEq ν] in
theorem rebindInner_sig (cfg : Cfg) (s : NSite ν α) (n : Nat) (o : List Nat) :
    (rebindInner cfg s n o).1.sig = s.sig := by
  unfold rebindInner
  cases cfg.kwargsAsKeywords <;> rfl

omit [DecidableEq ν] in
theorem rebindInner_ss (cfg : Cfg) (s : Site ν α) (n : Nat) :
    (rebindInner cfg s.toN n []).1.sampleShape = newSampleShape s n := by
  have : (rebindInner cfg s.toN n []).1.sampleShape =
      if (s.toN.flat.any fun a => a.inner.isSome) then s.sampleShape
      else if n ≠ 0 then n :: s.sampleShape else s.sampleShape := by
    unfold rebindInner
    cases cfg.kwargsAsKeywords <;> rfl
  rw [this, mapped_toN, newSampleShape]
  cases staticDimLength s.flat <;> rfl

omit [DecidableEq ν] in
theorem rebindInner_ax (cfg : Cfg) (s : Site ν α) (n : Nat) (hv : s.Valid n) :
    (rebindInner cfg s.toN n []).2 = outAxis cfg s n := by
  simp only [rebindInner, mapped_toN, outAxis]
  cases h : staticDimLength s.flat with
  | none => rfl
  | some m =>
      cases staticDimLength_of_valid hv h
      simp [Site.toN]

omit [DecidableEq ν] in
theorem rebindInner_pos (cfg : Cfg) (s : Site ν α) (n : Nat) :
    (rebindInner cfg s.toN n []).1.pos.map (·.arr) =
      if cfg.kwargsAsKeywords then s.pos.map (moveArg cfg)
      else s.pos.map (moveArg cfg) ++ (s.kws.map fun kw => (kw.1, moveArg cfg kw.2)).map (·.2) := by
  unfold rebindInner
  cases cfg.kwargsAsKeywords <;>
    simp only [Site.toN, List.map_map, List.map_append, Function.comp_def, moveInner_toN,
      Bool.false_eq_true, if_false, if_true]

omit [DecidableEq ν] in
theorem rebindInner_kws (cfg : Cfg) (s : Site ν α) (n : Nat) :
    ((rebindInner cfg s.toN n []).1.kws.map fun kw => (kw.1, kw.2.arr)) =
      if cfg.kwargsAsKeywords then s.kws.map fun kw => (kw.1, moveArg cfg kw.2) else [] := by
  unfold rebindInner
  cases cfg.kwargsAsKeywords <;>
    simp only [Site.toN, List.map_map, List.map_nil, Function.comp_def, moveInner_toN,
      Bool.false_eq_true, if_false, if_true]

theorem nestCall_one (cfg : Cfg) (site : κ → List Nat → List (Option α) → β) (key : κ)
    (s : Site ν α) (n : Nat) (hv : s.Valid n) :
    nestCall cfg site key [n] s.toN = (rule cfg site key s n).map fun r => (r.1, [r.2]) := by
  simp only [nestCall, rebindNest, rebindInner_sig, rebindInner_pos, rebindInner_kws, rebindInner_ss,
    rebindInner_ax cfg s n hv, rule]
  cases cfg.kwargsAsKeywords <;> rw [Option.map_map] <;> rfl

omit [DecidableEq ν] in
theorem laneShape1_toN (a : BArg α) : a.toN.laneShape1 = laneShape a := by
  obtain ⟨arr, bd⟩ := a
  cases bd <;> rfl

theorem abstractShape_toN (s : Site ν α) :
    s.toN.abstractShape = (laneBatchShape s).map (s.sampleShape ++ ·) := by
  simp only [NSite.abstractShape, Site.toN, List.map_map, Function.comp_def, laneShape1_toN,
    bindArgs_map laneShape s.sig s.pos s.kws, laneBatchShape]
  cases bindArgs s.sig s.pos s.kws with
  | none => rfl
  | some ps =>
      simp only [Option.map_some, Option.bind_some, List.filterMap_map]
      rfl

theorem nestCall_binds {cfg : Cfg} {site : κ → List Nat → List (Option α) → β} {key : κ}
    {sizes : List Nat} {s : NSite ν α} {r : Arr β × List (Option Nat)}
    (h : nestCall cfg site key sizes s = some r) :
    (bindArgs (rebindNest cfg sizes s).1.sig ((rebindNest cfg sizes s).1.pos.map (·.arr))
      ((rebindNest cfg sizes s).1.kws.map fun kw => (kw.1, kw.2.arr))).isNone = false := by
  by_contra hb
  rw [Bool.not_eq_false, Option.isNone_iff_eq_none] at hb
  simp only [nestCall, draw, hb, Option.map_none] at h
  cases h

def Arr.Same (a b : Arr β) : Prop := a.shape = b.shape ∧ ∀ i r, a.get (i :: r) = b.get (i :: r)

/-- same result (or both raise), for every `Cfg`; `Valid`: `jax.vmap`'s guarantees; `hB`: the site
    is defined on its lanes (staging succeeds). -/
theorem nest_one_level (cfg : Cfg) (site : κ → List Nat → List (Option α) → β) (key : κ)
    (s : Site ν α) (n : Nat) (B : List Nat) (hv : s.Valid n) (hB : laneBatchShape s = some B) :
    match vmapSite cfg site key s n, vmapNest cfg site key [n] s.toN with
    | some R, some R' => R'.Same R
    | none, none => True
    | _, _ => False := by
  have hnc := nestCall_one cfg site key s n hv
  have habs : (beforeOutermost cfg [n] s.toN).abstractShape = some (s.sampleShape ++ B) := by
    simp [beforeOutermost, abstractShape_toN, hB]
  cases hr : rule cfg site key s n with
  | none =>
      rw [hr, Option.map_none] at hnc
      -- the nest model raises `bind` or `broadcast`
      simp only [vmapSite, hr, Option.bind_none, vmapNest, vmapNestE, habs, hnc]
      split_ifs <;> trivial
  | some r =>
      obtain ⟨res, ax⟩ := r
      rw [hr, Option.map_some] at hnc
      simp only [vmapSite, hr, Option.bind_some, vmapNest, vmapNestE, habs, hnc, nestCall_binds hnc]
      -- one level: no inner declared axis, so no staged transpose, and `unwind` stacks the slices
      -- `take ax i` of the one declared axis, which is `moveFront ax` (what `vmapOut` does)
      cases ax with
      | none =>
          simp [stagedTranspose, vmapOut, unwindOk, unwind, Arr.Same, Arr.stack]
      | some ax =>
          by_cases hlt : ax < res.shape.length
          · simp [stagedTranspose, vmapOut, unwindOk, unwind, Arr.Same, Arr.stack, hlt,
              Arr.moveFront, Arr.take]
          · simp [stagedTranspose, vmapOut, unwindOk, hlt]

end OneLevel

/-! ### concrete nests -/
namespace Ex

def w2 : Arr Nat := Arr.ofFlat [2] [7, 8] 0
def w3 : Arr Nat := Arr.ofFlat [3] [7, 8, 9] 0
def c5 : Arr Nat := Arr.ofFlat [] [5] 0

/-- `modular_vmap(lambda a: modular_vmap(lambda: site(a, 5), axis_size=2)() , in_axes=0)(v3)`:
    a repeat inside a map — inside the lane-wise region -/
def nestedRepeat : NSite Nat Nat := ⟨[0, 1], [], [⟨v3, [none, some 0]⟩, ⟨c5, [none, none]⟩], []⟩

/-- `modular_vmap(lambda a, w: modular_vmap(lambda ww: site(a, ww))(w), in_axes=(0, None))(v3, w)`:
    a lane-wise scalar next to an inner-mapped vector — outside the lane-wise region, as `rank33` -/
def nestedBatched (w : Arr Nat) : NSite Nat Nat := ⟨[0, 1], [], [⟨v3, [none, some 0]⟩, ⟨w, [some 0, none]⟩], []⟩

/-- both parameters mapped at both levels (the positional one with `in_axes=1` outside and `0` inside,
    the keyword one with `0` / `0`), own `sample_shape=(2,)` — inside the lane-wise region -/
def nestedBoth : NSite Nat Nat := ⟨[0, 1], [2], [⟨m23, [some 0, some 1]⟩], [(1, ⟨m32, [some 0, some 0]⟩)]⟩

end Ex

end Genjax.VmapRule

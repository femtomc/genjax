import GenjaxModel.Proofs.GfiValuesGenerate
/-!
  C02: `generate` with a constraint that covers every address IS `assess`:
  the weight equals the log density that `assess` returns on the generated trace's choice map.
-/
namespace Genjax

/-! ## with a covering constraint the weight is minus the score -/

section FullWeight
variable {R : Type} [AddCommGroup R] (P : Prims R) (cfg : Cfg)

/-- `CM.Shape y x`: `x` has every address of the generated trace's choice map `y` -/
def FullOK (g : GF) : Prop :=
  ∀ (x : CM) (args : List Val) (t : Tr R) (w : R), g.generate P cfg (some x) args = some (t, w) →
    ∀ y, t.choices = some y → CM.Shape y x → g.cw t (some x) = -t.score

theorem full_body (kids : CML) (subs : TrL R) (b : Body) : ∀ (env : List Val),
    (∀ a g es, b.site a = some (g, es) → ∀ t1, subs.find? a = some t1 →
      g.cw t1 (kids.find? a) = -t1.score) →
    b.Coh P env subs → b.cw subs kids = -(b.scoreOf subs) := by
  induction b using Body.list_induction with
  | ret e => exact fun _ _ _ => neg_zero.symm
  | call addr g es rest ih =>
    intro env h hc
    obtain ⟨hnot, t, hft, _, hrc⟩ := hc
    have ih := ih (env ++ [t.retval]) (fun a g' es' hs t1 ht1 => by
      have hne : a ≠ addr := by
        rintro rfl
        rw [Body.site_none_of_not_mem rest _ hnot] at hs
        cases hs
      exact h a g' es' (by simp only [Body.site, hne, if_false, hs]) t1 ht1) hrc
    simp only [Body.cw, Body.scoreOf, hft, ih,
      h addr g es (by simp only [Body.site, if_true]) t hft]
    exact (neg_add _ _).symm

theorem sumR_zip_neg_score {α : Type} (f : Tr R → α → R) (ts : List (Tr R)) :
    ∀ (xs : List α), ts.length = xs.length →
    (∀ (i : Nat) t x, ts[i]? = some t → xs[i]? = some x → f t x = -t.score) →
    sumR ((ts.zip xs).map fun p => f p.1 p.2) = -sumR (ts.map Tr.score) := by
  induction ts with
  | nil => exact fun _ _ _ => neg_zero.symm
  | cons t ts ih =>
    intro xs hlen h
    cases xs with
    | nil => cases hlen
    | cons x xs =>
      simp only [List.zip_cons_cons, List.map_cons, sumR, neg_add, h 0 t x rfl rfl,
        ih xs (Nat.succ.inj hlen) fun i t x ht hx => h (i + 1) t x ht hx]

theorem full_lanes (g : GF) (IH : FullOK P cfg g) {l : CML} {ts : List (Tr R × R)}
    {A : Nat → List Val}
    (hL : LanesRun (fun i xi => g.generate P cfg (some xi) (A i)) l.toList ts) (xl : CML)
    (hxl : (TrL.ofList (ts.map (·.1))).choices = some xl)
    (hcov : CM.Shape (.lanes xl) (.lanes l)) :
    sumR (((ts.map (·.1)).zip l.toList).map fun p => g.cw p.1 (some p.2)) =
      -(TrL.ofList (ts.map (·.1))).scoreSum := by
  rw [TrL.scoreSum_ofList]
  cases hcov with
  | lanes _ hsh =>
    refine sumR_zip_neg_score (fun t x => g.cw t (some x)) _ _
      (by rw [List.length_map]; exact hL.1) fun i t xi ht hxi => ?_
    obtain ⟨b, hb, rfl⟩ := getElem?_map_some ht
    obtain ⟨xi', hxi', hu⟩ := hL.out hb
    cases hxi.symm.trans hxi'
    obtain ⟨ci, hci, hx⟩ := TrL.choices_get_some _ xl hxl i b.1
      (by rw [TrL.toList_ofList]; exact ht)
    exact IH _ _ _ _ hu ci hci (hsh i ci xi hx hxi)

theorem fullOK_all : ∀ g, FullOK P cfg g := by
  refine GF.induct_sites _ ?_ ?_ ?_ ?_ ?_
  · intro d0 x args t w h y hy hcov
    obtain ⟨v0, rfl, rfl, -⟩ := generate_dist_inv P cfg h
    rfl
  · intro body ih x args t w h y hy hcov
    have hcoh := generate_coh P cfg _ _ _ _ _ h
    obtain ⟨kids, subs, r, s, rfl, hb, rfl⟩ := generate_fn_inv P cfg h
    obtain ⟨hbc, _, hsc⟩ := hcoh
    obtain ⟨xl, hxl, rfl⟩ := Option.map_eq_some_iff.mp hy
    have hrel := CM.Rel.node_iff.mp hcov
    have hS := Body.generate_sites P cfg kids body _ _ _ _ _ _ _ _ hb
    show body.cw subs kids = -s
    rw [hsc]
    refine full_body P kids subs body args (fun a g es hsite t1 ht1 => ?_) hbc
    obtain ⟨t1', _, ⟨_, w1, hu⟩, hfF, _⟩ := hS.site a g es rfl rfl hsite
    cases hfF.symm.trans ht1
    obtain ⟨c1, hc1, hxa⟩ := TrL.choices_find subs xl hxl a t1 ht1
    obtain ⟨vb, hvb, hsh⟩ := hrel a c1 hxa
    rw [hvb] at hu ⊢
    exact ih a g es hsite _ _ _ _ hu c1 hc1 hsh
  · intro g axes n ih x args t w h y hy hcov
    obtain ⟨l, ts, rfl, -, hts, rfl, -⟩ := generate_vmap_inv P cfg h
    obtain ⟨xl, hxl, rfl⟩ := Option.map_eq_some_iff.mp hy
    simp only [GF.cw, Tr.score, TrL.toList_ofList]
    exact full_lanes P cfg g ih (.of_forLanes hts) xl hxl hcov
  · intro g n ih x args t w h y hy hcov
    obtain ⟨l, ts, cF, rfl, -, hts, rfl, -⟩ := generate_scan_inv P cfg h
    obtain ⟨xl, hxl, rfl⟩ := Option.map_eq_some_iff.mp hy
    have hL := LanesRun.of_forSteps (proj := (·.1)) hts fun _ _ _ _ _ => genStep_some P cfg
    simp only [GF.cw, Tr.score, TrL.toList_ofList]
    exact full_lanes P cfg g ih hL xl hxl hcov
  · intro tg fg iht ihf x args t w h y hy hcov
    obtain ⟨a, wa, b, wb, ha, hb, rfl, -⟩ := generate_cond_inv P cfg h
    obtain ⟨ya, hya, yb, hyb, hm⟩ : ∃ ya, a.choices = some ya ∧ ∃ yb, b.choices = some yb ∧
        CM.mergeCheck (args.getD 0 .nil).truthy ya yb = some y := by
      simpa only [Tr.choices, Option.bind_eq_bind, Option.bind_eq_some_iff] using hy
    simp only [GF.cw, Tr.score]
    cases hc : (args.getD 0 Val.nil).truthy with
    | true =>
      rw [hc] at hm
      exact iht _ _ _ _ ha ya hya ((CM.mergeCheck_true hm).1.toShape.trans hcov)
    | false =>
      rw [hc] at hm
      exact ihf _ _ _ _ hb yb hyb ((CM.mergeCheck_false hm).2.toShape.trans hcov)

/-- C02: if the constraint map `x` has every address of the generated trace's choice map `y`
    (`CM.Shape y x`: every dictionary key of `y`, at every depth, is bound in `x`, vectorised maps
    have the same number of lanes), then the weight is exactly the log density that `assess` returns
    on `y`: generate with a full constraint IS assess. -/
theorem generate_full_weight (g : GF) (x : CM) (args : List Val) (t : Tr R) (w : R)
    (h : g.generate P cfg (some x) args = some (t, w)) (y : CM) (hy : t.choices = some y)
    (hcov : CM.Shape y x) : g.assess P y args = some (w, t.retval) := by
  have hw := generate_weight P cfg g (some x) args t w h
  rw [fullOK_all P cfg g x args t w h y hy hcov] at hw
  rw [hw]
  exact coh_assess P g args t (generate_coh P cfg g _ args t w h) y hy

/-- the same with coverage stated on the program's static skeleton `g.skel` (`GfiAssessCond.lean`):
    the constraint binds every address of the program -/
theorem generate_full_weight_skel (g : GF) (sk : CM) (hsk : g.skel = some sk)
    (x : CM) (hcov : CM.Shape sk x) (args : List Val) (t : Tr R) (w : R)
    (h : g.generate P cfg (some x) args = some (t, w)) :
    ∃ y, t.choices = some y ∧ g.assess P y args = some (w, t.retval) := by
  have hs := generate_choices_skel P cfg g (some x) args t w h
  obtain ⟨y, hy⟩ := choices_of_skel hs (by rw [hsk]; rfl)
  refine ⟨y, hy, generate_full_weight P cfg g x args t w h y hy ?_⟩
  rw [hy, hsk] at hs
  simp only [Option.map_some, Option.some.injEq] at hs
  rw [← hs] at hcov
  exact (CM.shape_skel y).trans hcov

end FullWeight

end Genjax

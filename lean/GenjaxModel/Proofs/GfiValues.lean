import GenjaxModel.Proofs.GfiValuesGenerate
import GenjaxModel.Proofs.GfiValuesRegen
import GenjaxModel.Proofs.GfiValuesRoundtrip
import GenjaxModel.Proofs.GfiValuesWeight
/-!
  Value-level theorems for generate / update / regenerate (C02, C03, C04), gathered for the `Props`
  files (how the `GfiValues*` modules hang together: DESIGN.md §7.3).

  An executable form of `Tr.sameChecks` and executable scenarios on the concrete Cond / Scan /
  Vmap program `condExDeep`, used by the non-vacuity examples in Props/C02, C03, C04.
-/
namespace Genjax

section SameB
variable {R : Type}

mutual
  def Tr.sameChecksB : Tr R → Tr R → Bool
    | .leaf _ _, .leaf _ _ => true
    | .fn a _ _, .fn b _ _ => TrL.sameChecksB a b
    | .vec a, .vec b => TrL.sameChecksPosB a b
    | .scan a _, .scan b _ => TrL.sameChecksPosB a b
    | .cond c a a', .cond d b b' => c == d && Tr.sameChecksB a b && Tr.sameChecksB a' b'
    | _, _ => false
  def TrL.sameChecksB : TrL R → TrL R → Bool
    | .nil, _ => true
    | .cons k t rest, b =>
      (match b.find? k with | some t' => Tr.sameChecksB t t' | none => true) && TrL.sameChecksB rest b
  def TrL.sameChecksPosB : TrL R → TrL R → Bool
    | .nil, .nil => true
    | .cons _ t rest, .cons _ t' rest' => Tr.sameChecksB t t' && TrL.sameChecksPosB rest rest'
    | _, _ => false
end

mutual
  theorem Tr.sameChecks_of_B : (t t' : Tr R) → Tr.sameChecksB t t' = true → Tr.sameChecks t t'
    | .leaf _ _, t', h => by
        cases t' <;> trivial
    | .fn a _ _, t', h => by
        cases t' <;> try cases h
        exact TrL.sameChecks_of_B a _ h
    | .vec a, t', h => by
        cases t' <;> try cases h
        exact TrL.sameChecksPos_of_B a _ h
    | .scan a _, t', h => by
        cases t' <;> try cases h
        exact TrL.sameChecksPos_of_B a _ h
    | .cond c a a', t', h => by
        cases t' <;> try cases h
        obtain ⟨h1, h3⟩ := Bool.and_eq_true_iff.mp h
        obtain ⟨h1, h2⟩ := Bool.and_eq_true_iff.mp h1
        exact ⟨beq_iff_eq.mp h1, Tr.sameChecks_of_B a _ h2, Tr.sameChecks_of_B a' _ h3⟩
  termination_by structural t => t
  theorem TrL.sameChecks_of_B : (a b : TrL R) → TrL.sameChecksB a b = true →
      Tr.sameChecks.TrL.sameChecks a b
    | .nil, b, _ => trivial
    | .cons k t rest, b, h => by
        obtain ⟨h1, h2⟩ := Bool.and_eq_true_iff.mp h
        refine ⟨?_, TrL.sameChecks_of_B rest b h2⟩
        cases hb : b.find? k with
        | none => trivial
        | some t' =>
          rw [hb] at h1
          exact Tr.sameChecks_of_B t t' h1
  termination_by structural a => a
  theorem TrL.sameChecksPos_of_B : (a b : TrL R) → TrL.sameChecksPosB a b = true →
      Tr.sameChecks.TrL.sameChecksPos a b
    | .nil, b, h => by
        cases b <;> try cases h
        trivial
    | .cons k t rest, b, h => by
        cases b <;> try cases h
        obtain ⟨h1, h2⟩ := Bool.and_eq_true_iff.mp h
        exact ⟨Tr.sameChecks_of_B t _ h1, TrL.sameChecksPos_of_B rest _ h2⟩
  termination_by structural a => a
end

end SameB

/-! ## executable scenarios (integer weights) -/

/-- simulate, then update: old trace, new trace, weight, discard, old and new choice map -/
structure UpdScen where
  t : Tr ℤ
  t' : Tr ℤ
  w : ℤ
  d : Option CM
  y : CM
  y' : CM

def updScen (P : Prims ℤ) (cfg : Cfg) (g : GF) (args0 : List Val) (x : Option CM)
    (args : List Val) : Option UpdScen := do
  let t ← g.simulate P args0
  let r ← g.update P cfg t x args
  let y ← t.choices
  let y' ← r.1.choices
  pure ⟨t, r.1, r.2.1, r.2.2, y, y'⟩

theorem updScen_spec {P : Prims ℤ} {cfg : Cfg} {g : GF} {args0 : List Val} {x : Option CM}
    {args : List Val} {s : UpdScen} (h : updScen P cfg g args0 x args = some s) :
    g.simulate P args0 = some s.t ∧ g.Canon s.t ∧ g.Coh P args0 s.t ∧
    g.update P cfg s.t x args = some (s.t', s.w, s.d) ∧
    s.t.choices = some s.y ∧ s.t'.choices = some s.y' := by
  obtain ⟨t, ht, h⟩ := Option.bind_eq_some_iff.mp h
  obtain ⟨⟨t', w, d⟩, hu, h⟩ := Option.bind_eq_some_iff.mp h
  obtain ⟨y, hy, h⟩ := Option.bind_eq_some_iff.mp h
  obtain ⟨y', hy', h⟩ := Option.bind_eq_some_iff.mp h
  cases h
  exact ⟨ht, simulate_canon P g _ _ ht, simulate_coh P g _ _ ht, hu, hy, hy'⟩

/-- simulate, update, update back with the discard and the old arguments -/
structure RoundScen extends UpdScen where
  t'' : Tr ℤ
  w2 : ℤ
  d2 : Option CM

def roundScen (P : Prims ℤ) (cfg : Cfg) (g : GF) (args0 : List Val) (x : Option CM)
    (args : List Val) : Option RoundScen := do
  let s ← updScen P cfg g args0 x args
  let r ← g.update P cfg s.t' s.d args0
  pure ⟨s, r.1, r.2.1, r.2.2⟩

theorem roundScen_spec {P : Prims ℤ} {cfg : Cfg} {g : GF} {args0 : List Val} {x : Option CM}
    {args : List Val} {s : RoundScen} (h : roundScen P cfg g args0 x args = some s) :
    updScen P cfg g args0 x args = some s.toUpdScen ∧
    g.update P cfg s.t' s.d args0 = some (s.t'', s.w2, s.d2) := by
  obtain ⟨s0, hs0, h⟩ := Option.bind_eq_some_iff.mp h
  obtain ⟨⟨t'', w2, d2⟩, hu, h⟩ := Option.bind_eq_some_iff.mp h
  cases h
  exact ⟨hs0, hu⟩

def regenScen (P : Prims ℤ) (cfg : Cfg) (g : GF) (args0 : List Val) (sel : Sel)
    (args : List Val) : Option UpdScen := do
  let t ← g.simulate P args0
  let r ← g.regenerate P cfg t sel args
  let y ← t.choices
  let y' ← r.1.choices
  pure ⟨t, r.1, r.2.1, r.2.2, y, y'⟩

theorem regenScen_spec {P : Prims ℤ} {cfg : Cfg} {g : GF} {args0 : List Val} {sel : Sel}
    {args : List Val} {s : UpdScen} (h : regenScen P cfg g args0 sel args = some s) :
    g.simulate P args0 = some s.t ∧ g.Canon s.t ∧ g.Coh P args0 s.t ∧
    g.regenerate P cfg s.t sel args = some (s.t', s.w, s.d) ∧
    s.t.choices = some s.y ∧ s.t'.choices = some s.y' := by
  obtain ⟨t, ht, h⟩ := Option.bind_eq_some_iff.mp h
  obtain ⟨⟨t', w, d⟩, hu, h⟩ := Option.bind_eq_some_iff.mp h
  obtain ⟨y, hy, h⟩ := Option.bind_eq_some_iff.mp h
  obtain ⟨y', hy', h⟩ := Option.bind_eq_some_iff.mp h
  cases h
  exact ⟨ht, simulate_canon P g _ _ ht, simulate_coh P g _ _ ht, hu, hy, hy'⟩

def genScen (P : Prims ℤ) (cfg : Cfg) (g : GF) (x : Option CM) (args : List Val) :
    Option (Tr ℤ × ℤ × CM) := do
  let r ← g.generate P cfg x args
  let y ← r.1.choices
  pure (r.1, r.2, y)

theorem genScen_spec {P : Prims ℤ} {cfg : Cfg} {g : GF} {x : Option CM} {args : List Val}
    {s : Tr ℤ × ℤ × CM} (h : genScen P cfg g x args = some s) :
    g.generate P cfg x args = some (s.1, s.2.1) ∧ s.1.choices = some s.2.2 := by
  obtain ⟨⟨t, w⟩, hg, h⟩ := Option.bind_eq_some_iff.mp h
  obtain ⟨y, hy, h⟩ := Option.bind_eq_some_iff.mp h
  cases h
  exact ⟨hg, hy⟩

/-- a constraint map for `condExDeep`: step 1 of the Scan (a Cond) and lane 0 of the Vmap (a Cond of
    a Cond) get their `"x"` constrained -/
def valExX : CM :=
  .node (.cons "s" (.lanes (.cons "" (.node .nil)
            (.cons "" (.node (.cons "x" (.leaf (.num 10)) .nil)) (.cons "" (.node .nil) .nil))))
        (.cons "v" (.lanes (.cons "" (.node (.cons "x" (.leaf (.num 20)) .nil))
            (.cons "" (.node .nil) .nil))) .nil))

/-- new arguments for `condExDeep` under which Conds switch branch (the lane checks are swapped) -/
def valExArgs : List Val := [Val.ofList [.num 1, .num 2, .num 3], Val.ofList [.num 1, .num 0]]

/-- constrained address inside the Scan of a Cond -/
def valExPc : Path := [.key "s", .idx 1, .key "x"]
/-- constrained address inside the Vmap of a Cond of a Cond -/
def valExPc' : Path := [.key "v", .idx 0, .key "x"]
/-- unconstrained addresses -/
def valExPu : Path := [.key "s", .idx 2, .key "y"]
def valExPu' : Path := [.key "v", .idx 1, .key "x"]

/-- the specification variant without the completion of the constraint in `Cond.update`
    (`condUpdateFill`), to exhibit what the completion changes -/
def valExCfgNoFill : Cfg := { Cfg.spec with condUpdateFill := false }

/-- primitives whose sampler depends on the arguments (so that resampling under new arguments
    changes the values) -/
def valExP : Prims ℤ where
  lp := fun d _ v => (d : ℤ) + 2 * v.toRat.num
  draw := fun d a => .num ((d + 3 : Nat) + (a.map Val.sum).sum)

/-- selects `"x"` below `"s"` (every step of the Scan) and `"y"` below `"v"` (every lane) -/
def valExSel : Sel := .union (.tup ["s", "x"]) (.tup ["v", "y"])

/-- new arguments for `condExDeep` that keep every Cond check -/
def valExArgs3 : List Val := [Val.ofList [.num 1, .num 2, .num 3], Val.ofList [.num 0, .num 1]]

/-- the choice map of a simulated trace of `condExDeep`: a constraint that covers every address -/
def fullExX : Option CM := (condExDeep.simulate condExP condExDeepArgs).bind Tr.choices

end Genjax

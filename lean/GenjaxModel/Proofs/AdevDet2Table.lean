import GenjaxModel.Proofs.AdevDet2Main
import GenjaxModel.Model.AdevDet2IO
/-!
  C15, richer language: every entry of the standard primitive table is lawful (for every choice of
  the abstract functions), hence "ADEV = forward-mode AD" holds for every program over the table
  without hypotheses on the primitives; the programs of the Lean witnesses of the seeded regressions.
-/
set_option linter.unusedSectionVars false
namespace Genjax.Adev2
variable {K : Type} [Field K] [LinearOrder K]

theorem mk'_lawful (val : List (Val K) → List (Val K)) (rule : List (Val K) → List (Tan K) → List (Tan K))
    (h1 : ∀ vs ts, (rule vs ts).map Tan.mat = (rule vs (ts.map fun t => Tan.tan t.mat)).map Tan.mat)
    (h2 : ∀ vs ts, (∀ t ∈ ts, Tan.mat t = 0) → ∀ t ∈ rule vs ts, Tan.mat t = 0)
    (h3 : ∀ vs ts, (rule vs ts).length = (val vs).length)
    (h4 : ∀ vs ts, ∀ x ∈ List.zip (val vs) (rule vs ts), x.1.isDis = true → x.2 = Tan.zero) :
    (Prim.mk' val rule).Lawful :=
  ⟨fun _ _ _ => rfl, fun vs ts _ => h3 vs ts, fun vs ts _ => h1 vs ts, fun vs ts _ => h2 vs ts,
    fun vs ts _ => h4 vs ts⟩

theorem zip_flt_not_dis (v : K) (l : List (Tan K)) :
    ∀ x ∈ List.zip [Val.flt v] l, x.1.isDis = true → x.2 = Tan.zero := by
  intro x hx hd
  cases l with
  | nil => simp at hx
  | cons t l =>
    simp only [List.zip_cons_cons, List.zip_nil_left, List.mem_singleton] at hx
    subst hx
    simp [Val.isDis] at hd

theorem zip_zero (vs : List (Val K)) :
    ∀ x ∈ List.zip vs [Tan.zero (K := K)], x.1.isDis = true → x.2 = Tan.zero := by
  intro x hx _
  cases vs with
  | nil => simp at hx
  | cons v vs =>
    simp only [List.zip_cons_cons, List.zip_nil_right, List.mem_singleton] at hx
    subst hx
    rfl

/-- the zero-derivative entries: rule `[zero]`, one output -/
theorem mk'_zero_lawful (f : List (Val K) → Val K) :
    (Prim.mk' (fun vs => [f vs]) (fun _ _ => [Tan.zero (K := K)])).Lawful :=
  mk'_lawful _ _ (fun _ _ => rfl) (fun _ _ _ _ ht => congrArg Tan.mat (List.mem_singleton.mp ht))
    (fun _ _ => rfl) (fun _ _ => zip_zero _)

/-- one float output -/
theorem mk'_flt_lawful (f : List (Val K) → K) (rule : List (Val K) → List (Tan K) → Tan K)
    (h1 : ∀ vs ts, (rule vs ts).mat = (rule vs (ts.map fun t => Tan.tan t.mat)).mat)
    (h2 : ∀ vs ts, (∀ t ∈ ts, Tan.mat t = 0) → (rule vs ts).mat = 0) :
    (Prim.mk' (fun vs => [.flt (f vs)]) (fun vs ts => [rule vs ts])).Lawful :=
  mk'_lawful _ _ (fun vs ts => congrArg (fun x => [x]) (h1 vs ts))
    (fun vs ts h _ ht => (congrArg Tan.mat (List.mem_singleton.mp ht)).trans (h2 vs ts h))
    (fun _ _ => rfl) (fun _ _ => zip_flt_not_dis _ _)

theorem Op.prim_lawful (T : Table K) : ∀ o : Op K, (Op.prim T o).Lawful
  | .const _ | .iconst _ | .step _ | .gt | .disc _ | .iadd | .isub | .imul | .igt | .toFloat =>
      mk'_zero_lawful _
  -- one float output whose tangent is a linear combination (or a selection) of the input tangents
  | .add | .sub | .mul | .div | .neg | .un _ | .select =>
      mk'_flt_lawful _ _
        (fun _ _ => by simp only [Tan.mat_add, Tan.mat_neg, Tan.mat_scale, Tan.mat_select, getD_tan_mat])
        (fun _ ts h => by
          simp only [Tan.mat_add, Tan.mat_neg, Tan.mat_scale, Tan.mat_select, getD_mat_zero ts h, neg_zero,
            mul_zero, add_zero, ite_self])
  | .mixed i => mk'_lawful _ _
      (fun _ _ => by simp only [List.map_cons, List.map_nil, Tan.mat_scale, getD_tan_mat])
      (fun _ ts h => by
        simp only [List.mem_cons, List.not_mem_nil, or_false, forall_eq_or_imp, forall_eq, Tan.mat_zero,
          Tan.mat_scale, getD_mat_zero ts h, mul_zero, and_self])
      (fun _ _ => rfl)
      (fun _ _ x hx hd => by
        simp only [List.zip_cons_cons, List.zip_nil_left, List.mem_cons, List.not_mem_nil, or_false] at hx
        rcases hx with rfl | rfl
        · rfl
        · exact absurd hd Bool.false_ne_true)

theorem discrete_outputs_have_zero_tangent_table (T : Table K) (cfg : Cfg) (p : Prog (Op K)) (out : Nat)
    (env : List (DV K)) (h : WFA env) :
    WFA (runAProg cfg (Op.prim T) p env) ∧
      ((adevRun cfg (Op.prim T) p out env).p.isDis = true → (adevRun cfg (Op.prim T) p out env).t = Tan.zero) :=
  discrete_outputs_have_zero_tangent cfg (Op.prim T) (Op.prim_lawful T) p out env h

/-! ### programs of the Lean witnesses of the seeded regressions (over `Rat`, the driver's table) -/

/-- `where(x > y, x * y, x - y)`: one `select_n` equation with a discrete and two float operands -/
def whereProg : Prog (Op Rat) := .ofList
  [.prim .gt [0, 1], .prim .mul [0, 1], .prim .sub [0, 1], .prim .select [2, 3, 4]]
def whereEnv : List (DV Rat) := [⟨.flt (3/2), .tan 1⟩, ⟨.flt (3/4), .tan 1⟩]

/-- `fori_loop(0, 3, lambda i, a: a * x + i, 1.0)`: ONE scan equation with carry `(counter, value)` -/
def counterLoopProg : Prog (Op Rat) := .ofList
  [.prim (.iconst 0) [], .prim (.const 1) [],
   .fori 3 [0] [1, 2]
     (.ofList [.prim (.iconst 1) [], .prim .iadd [1, 3], .prim .mul [2, 0], .prim .toFloat [1], .prim .add [5, 6]])
     [4, 7]]
def counterLoopEnv : List (DV Rat) := [⟨.flt (3/2), .tan 1⟩]

/-- a two-output primitive `(floor x, x * x)` (a jitted helper returning `(index, value)`), then
    `value * float(index)` -/
def mixedProg : Prog (Op Rat) := .ofList [.prim (.mixed 1) [0], .prim .toFloat [1], .prim .mul [2, 3]]
def mixedEnv : List (DV Rat) := [⟨.flt (5/2), .tan 1⟩]

/-- the code's fast-path condition (ALL inputs) is right on `where(x > y, x * y, x - y)` -/
example : (adevRun Cfg.code (Op.prim Table.rat) whereProg 5 whereEnv).toRD = ⟨.flt (9/8), 9/4⟩ := by
  decide +kernel

/-- … and on the loop with carry `(counter, value)` and the two-output primitive `(index, value)` -/
example : (adevRun Cfg.code (Op.prim Table.rat) counterLoopProg 4 counterLoopEnv).toRD = ⟨.flt (55/8), 31/4⟩ ∧
    (adevRun Cfg.code (Op.prim Table.rat) mixedProg 4 mixedEnv).toRD = ⟨.flt (25/2), 10⟩ := by
  decide +kernel

/-- the seeded ANY-condition also breaks the loop (the counter's tangent is a symbolic zero) -/
theorem fast_path_any_loop_cex :
    (adevRun Cfg.anyZero (Op.prim Table.rat) counterLoopProg 4 counterLoopEnv).toRD = ⟨.flt (55/8), 0⟩ := by
  decide +kernel

example : Cfg.code.Good ∧ Cfg.noFastPath.Good ∧ ¬ Cfg.anyZero.Good ∧ ¬ Cfg.discreteOut.Good := by decide
example : WFJ (whereEnv.map DV.toRD) := by unfold WFJ; decide +kernel
example : WFA counterLoopEnv := by unfold WFA; decide +kernel

/-- `zeroLin` cannot be dropped from `Prim.Lawful`: a "rule" that returns tangent 1 on zero input
    tangents makes the fast path disagree with the rule (`C15_adev2_lawful_needed_cex` in `Props/C15.lean`) -/
def badPrim : Prim Rat := ⟨fun _ => [.flt 0], fun _ _ => ([.flt 0], [.tan 1])⟩

end Genjax.Adev2

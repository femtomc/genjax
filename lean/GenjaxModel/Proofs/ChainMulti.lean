import GenjaxModel.Model.ChainMulti
import GenjaxModel.Proofs.Chain
import Mathlib.Algebra.Order.Field.Rat
import Mathlib.Algebra.Order.Field.Basic
import Mathlib.Tactic.FieldSimp
import Mathlib.Tactic.Ring
import Mathlib.Tactic.Linarith
/-!
  C18, multi-chain branch and acceptance rates: lanes of `multiChain` are the single-chain results
  of the lanes' kernels, the reported rates are means of the returned (thinned) flags.
-/
namespace Genjax.Chain
variable {σ : Type} [Inhabited σ]

/-! ### single chain: the rate is the mean of the returned flags -/

theorem chain_accept_count (step : Nat → σ → σ × Bool) (init : σ) (n b k : Nat) :
    (chain step init n b k).acceptCount = countTrue (chain step init n b k).accepts := by
  simp only [chain, countTrue, List.filter_map, List.length_map]
  rfl

theorem chain_nSteps_arange (step : Nat → σ → σ × Bool) (init : σ) (n b k : Nat) :
    (chain step init n b k).nSteps = (arange b n k).length := rfl

theorem chain_rate_eq_meanBool (step : Nat → σ → σ × Bool) (init : σ) (n b k : Nat) :
    (chain step init n b k).rate = meanBool (chain step init n b k).accepts := by
  rw [Result.rate, meanBool, chain_accept_count, chain_nSteps_arange]
  simp only [chain, List.length_map]

theorem meanBool_nonneg (l : List Bool) : 0 ≤ meanBool l :=
  div_nonneg (Nat.cast_nonneg _) (Nat.cast_nonneg _)

theorem meanBool_le_one (l : List Bool) : meanBool l ≤ 1 :=
  div_le_one_of_le₀ (Nat.cast_le.mpr (List.length_filter_le _ _)) (Nat.cast_nonneg _)

/-! ### multi chain: the stacked fields, lane by lane -/

theorem multiChain_states (steps : Nat → Nat → σ → σ × Bool) (init : σ) (n b k c : Nat) :
    (multiChain steps init n b k c).states
      = (List.range c).map fun ci => (chain (steps ci) init n b k).states :=
  List.map_map

theorem multiChain_accepts (steps : Nat → Nat → σ → σ × Bool) (init : σ) (n b k c : Nat) :
    (multiChain steps init n b k c).accepts
      = (List.range c).map fun ci => (chain (steps ci) init n b k).accepts :=
  List.map_map

theorem multiChain_chainRates (steps : Nat → Nat → σ → σ × Bool) (init : σ) (n b k c : Nat) :
    (multiChain steps init n b k c).chainRates
      = (List.range c).map fun ci => (chain (steps ci) init n b k).rate := by
  simp only [multiChain, List.map_map, chain_rate_eq_meanBool]
  rfl

/-! ### rates of a rectangular boolean matrix -/

theorem countTrue_flatten (rows : List (List Bool)) :
    countTrue rows.flatten = (rows.map countTrue).sum := by
  unfold countTrue
  simp only [← List.countP_eq_length_filter, List.countP_flatten]

theorem length_flatten_const (rows : List (List Bool)) (m : Nat) (h : ∀ r ∈ rows, r.length = m) :
    rows.flatten.length = rows.length * m := by
  rw [List.length_flatten, List.map_congr_left h, List.map_const', List.sum_replicate_nat]

theorem sumRat_map_meanBool (rows : List (List Bool)) (m : Nat) (h : ∀ r ∈ rows, r.length = m) :
    sumRat (rows.map meanBool) = (((rows.map countTrue).sum : Nat) : Rat) / (m : Rat) := by
  induction rows with
  | nil => simp [sumRat]
  | cons r rs ih =>
    rw [List.map_cons, sumRat, ih fun r' hr' => h r' (List.mem_cons_of_mem _ hr'), meanBool,
      h r List.mem_cons_self, List.map_cons, List.sum_cons, Nat.cast_add, add_div]

/-- no positivity is asked: with `x / 0 = 0` both sides vanish when a dimension is 0 -/
theorem meanRat_map_meanBool (rows : List (List Bool)) (m : Nat) (h : ∀ r ∈ rows, r.length = m) :
    meanRat (rows.map meanBool)
      = (((rows.map countTrue).sum : Nat) : Rat) / ((rows.length * m : Nat) : Rat) := by
  rw [meanRat, sumRat_map_meanBool rows m h, List.length_map, div_div, Nat.cast_mul, mul_comm]

theorem meanBool_flatten (rows : List (List Bool)) (m : Nat) (h : ∀ r ∈ rows, r.length = m) :
    meanBool rows.flatten
      = (((rows.map countTrue).sum : Nat) : Rat) / ((rows.length * m : Nat) : Rat) := by
  rw [meanBool, countTrue_flatten, length_flatten_const rows m h]

/-! ### seeded-kernel view -/

omit [Inhabited σ] in
theorem iter_seeded {κ : Type} (kern : κ → σ → σ × Bool) (fold : Nat → κ) (m : Nat) (init : σ) :
    iter (seededStep kern fold) m init = iterKeys kern fold m init := by
  unfold iterKeys
  induction m with
  | zero => rfl
  | succ m ih => rw [List.range_succ, List.foldl_append, ← ih]; rfl

end Genjax.Chain

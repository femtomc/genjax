import GenjaxModel.Proofs.DistSpec
import Mathlib.Probability.Distributions.Beta
import Mathlib.Probability.Distributions.Cauchy
import Mathlib.MeasureTheory.Function.JacobianOneDim
import Mathlib.MeasureTheory.Measure.Lebesgue.Integral
import Mathlib.Analysis.SpecialFunctions.ImproperIntegrals
/-!
  C13: documented closed-form densities of the built-in continuous distributions gamma, chi2,
  beta, cauchy, laplace, log_normal, half_normal, inverse_gamma, weibull, student_t and their
  normalisation, plus parameter-mapping lemmas pinning the documented parameterisation
  (rate vs scale etc.) and non-negativity (the `ENNReal.ofReal` in the normalisation statements
  clips nothing).  Same conventions as `DistSpec.lean`.

  gamma, beta and cauchy are Mathlib's densities.  The others are reduced to them, to the normal
  and to the exponential density by the parameter-mapping lemmas and four changes of variables:
  location-scale (`locScale_normalised`), reflection (`lintegral_even`), and on the positive half
  line `u = x ^ p` (`lintegral_comp_rpow_Ioi`) and `x = exp y`
  (`lintegral_Ioi_eq_lintegral_comp_exp`); student_t needs one more, `t = x²/(ν+x²)`, to the beta
  density.
-/
open Real MeasureTheory ProbabilityTheory

namespace Genjax.DistSpec

/-- the point `0` does not matter, so this serves the densities on `x > 0` and on `x ≥ 0` alike -/
theorem lintegral_eq_Ioi_of_neg {F : ℝ → ENNReal} (h : ∀ x < 0, F x = 0) :
    ∫⁻ x, F x = ∫⁻ x in Set.Ioi 0, F x := by
  rw [← lintegral_add_compl F (measurableSet_Iio (a := (0:ℝ))),
    setLIntegral_eq_zero measurableSet_Iio h, zero_add, Set.compl_Iio,
    setLIntegral_congr Ioi_ae_eq_Ici]

theorem lintegral_comp_div (g : ℝ → ENNReal) (σ : ℝ) (hσ : 0 < σ) :
    ∫⁻ x, g (x / σ) = ENNReal.ofReal σ * ∫⁻ x, g x := by
  have h := lintegral_map_equiv (μ := volume) g (MeasurableEquiv.mulRight₀ σ⁻¹ (inv_ne_zero hσ.ne'))
  rwa [MeasurableEquiv.coe_mulRight₀, Real.map_volume_mul_right (inv_ne_zero hσ.ne'),
    lintegral_smul_measure, inv_inv, abs_of_pos hσ, eq_comm] at h

theorem lintegral_affine (g : ℝ → ENNReal) (μ σ : ℝ) (hσ : 0 < σ) :
    ∫⁻ x, ENNReal.ofReal (1 / σ) * g ((x - μ) / σ) = ∫⁻ x, g x := by
  rw [lintegral_sub_right_eq_self (fun x => ENNReal.ofReal (1 / σ) * g (x / σ)) μ,
    lintegral_const_mul' _ _ ENNReal.ofReal_ne_top, lintegral_comp_div g σ hσ, ← mul_assoc,
    ← ENNReal.ofReal_mul (one_div_pos.2 hσ).le, one_div_mul_cancel hσ.ne', ENNReal.ofReal_one,
    one_mul]

theorem locScale_normalised {f : ℝ → ℝ} (hf : ∫⁻ x, ENNReal.ofReal (f x) = 1) (μ σ : ℝ)
    (hσ : 0 < σ) : ∫⁻ x, ENNReal.ofReal (1 / σ * f ((x - μ) / σ)) = 1 := by
  rw [← hf, ← lintegral_affine (fun y => ENNReal.ofReal (f y)) μ σ hσ]
  refine lintegral_congr (fun x => ?_)
  rw [ENNReal.ofReal_mul (one_div_pos.2 hσ).le]

theorem lintegral_even (f : ℝ → ℝ) (hf : ∀ x, f (-x) = f x) :
    ∫⁻ x, ENNReal.ofReal (f x) = ∫⁻ x in Set.Ioi 0, ENNReal.ofReal (2 * f x) := by
  have hneg : ∫⁻ x in Set.Iic 0, ENNReal.ofReal (f x) =
      ∫⁻ x in Set.Ioi 0, ENNReal.ofReal (f x) := by
    rw [setLIntegral_congr Iio_ae_eq_Iic.symm, ← lintegral_indicator measurableSet_Iio,
      ← lintegral_neg_eq_self, ← lintegral_indicator measurableSet_Ioi]
    refine lintegral_congr (fun x => ?_)
    simp only [Set.indicator_apply, Set.mem_Iio, Set.mem_Ioi, neg_lt_zero, hf]
  rw [← lintegral_add_compl _ (measurableSet_Iic (a := (0:ℝ))), Set.compl_Iic, hneg, ← two_mul,
    ← lintegral_const_mul' _ _ ENNReal.ofNat_ne_top]
  simp only [ENNReal.ofReal_mul zero_le_two, ENNReal.ofReal_ofNat]

theorem lintegral_comp_rpow_Ioi (G : ℝ → ENNReal) {p : ℝ} (hp : p ≠ 0) :
    ∫⁻ x in Set.Ioi 0, ENNReal.ofReal (|p| * x ^ (p - 1)) * G (x ^ p) =
      ∫⁻ u in Set.Ioi 0, G u := by
  have himg : (· ^ p) '' Set.Ioi 0 = Set.Ioi (0 : ℝ) := by
    ext u
    refine ⟨fun ⟨y, hy, e⟩ => e ▸ rpow_pos_of_pos hy p,
      fun hu => ⟨u ^ (1 / p), rpow_pos_of_pos hu _, ?_⟩⟩
    simp only []
    rw [← rpow_mul (le_of_lt hu), one_div_mul_cancel hp, rpow_one]
  have h := lintegral_image_eq_lintegral_abs_deriv_mul measurableSet_Ioi
    (fun x hx => (hasDerivAt_rpow_const (Or.inl (Set.mem_Ioi.mp hx).ne')).hasDerivWithinAt)
    ((rpow_left_injOn hp).mono Set.Ioi_subset_Ici_self) G
  rw [himg] at h
  rw [h]
  refine setLIntegral_congr_fun measurableSet_Ioi (fun x hx => ?_)
  rw [abs_mul, abs_of_nonneg (rpow_nonneg (le_of_lt hx) _)]

theorem lintegral_Ioi_eq_lintegral_comp_exp (G : ℝ → ENNReal) :
    ∫⁻ x in Set.Ioi 0, G x = ∫⁻ y, ENNReal.ofReal (Real.exp y) * G (Real.exp y) := by
  have h := lintegral_image_eq_lintegral_abs_deriv_mul (s := Set.univ) (f := Real.exp) (f' := Real.exp)
    MeasurableSet.univ (fun x _ => (Real.hasDerivAt_exp x).hasDerivWithinAt)
    Real.exp_injective.injOn G
  rw [Set.image_univ, Real.range_exp, Measure.restrict_univ] at h
  rw [h]
  refine lintegral_congr (fun y => ?_)
  rw [abs_of_pos (Real.exp_pos y)]

theorem lintegral_exp_neg_Ioi : ∫⁻ u in Set.Ioi 0, ENNReal.ofReal (Real.exp (-u)) = 1 :=
  lintegral_ofReal_eq_one (fun _ => (Real.exp_pos _).le) integral_exp_neg_Ioi_zero

/-- gamma(concentration α, rate β) -/
noncomputable def gammaPdf (a r x : ℝ) : ℝ :=
  if 0 < x then r ^ a / Real.Gamma a * x ^ (a - 1) * Real.exp (-(r * x)) else 0

theorem gammaPdf_nonneg (a r x : ℝ) (ha : 0 < a) (hr : 0 < r) : 0 ≤ gammaPdf a r x :=
  ite_zero_nonneg fun h => mul_nonneg (mul_nonneg (div_nonneg (Real.rpow_nonneg hr.le a)
    (Real.Gamma_pos_of_pos ha).le) (Real.rpow_nonneg h.le _)) (Real.exp_pos _).le

theorem gammaPdf_of_neg (a r : ℝ) {x : ℝ} (hx : x < 0) : ENNReal.ofReal (gammaPdf a r x) = 0 := by
  rw [gammaPdf, if_neg (not_lt.2 hx.le), ENNReal.ofReal_zero]

theorem lintegral_gammaPdf_Ioi (a r : ℝ) (ha : 0 < a) (hr : 0 < r) :
    ∫⁻ x in Set.Ioi 0, ENNReal.ofReal (gammaPdf a r x) = 1 := by
  rw [← lintegral_gammaPDF_eq_one ha hr, lintegral_eq_Ioi_of_neg (fun x hx => gammaPDF_of_neg hx)]
  refine setLIntegral_congr_fun measurableSet_Ioi (fun x hx => ?_)
  rw [gammaPDF_of_nonneg (le_of_lt hx), gammaPdf, if_pos (Set.mem_Ioi.mp hx)]

theorem gamma_normalised (a r : ℝ) (ha : 0 < a) (hr : 0 < r) :
    ∫⁻ x, ENNReal.ofReal (gammaPdf a r x) = 1 := by
  rw [lintegral_eq_Ioi_of_neg (fun x => gammaPdf_of_neg a r), lintegral_gammaPdf_Ioi a r ha hr]

theorem gamma_rate_scaling (a r x : ℝ) (hr : 0 < r) :
    gammaPdf a r x = r * gammaPdf a 1 (r * x) := by
  simp only [gammaPdf, mul_pos_iff_of_pos_left hr]
  split_ifs with h
  · have e : r ^ a = r ^ (a - 1) * r := by rw [← Real.rpow_add_one hr.ne', sub_add_cancel]
    rw [Real.mul_rpow hr.le h.le, Real.one_rpow, one_mul, e]
    ring
  · rw [mul_zero]

/-- chi2(df k) -/
noncomputable def chi2Pdf (k x : ℝ) : ℝ :=
  if 0 < x then 1 / (2 ^ (k / 2) * Real.Gamma (k / 2)) * x ^ (k / 2 - 1) * Real.exp (-(x / 2)) else 0

theorem chi2_eq_gamma (k x : ℝ) : chi2Pdf k x = gammaPdf (k / 2) (1 / 2) x := by
  simp only [chi2Pdf, gammaPdf]
  rw [Real.div_rpow zero_le_one zero_le_two, Real.one_rpow, div_div, one_div_mul_eq_div 2 x]

theorem chi2Pdf_nonneg (k x : ℝ) (hk : 0 < k) : 0 ≤ chi2Pdf k x := by
  rw [chi2_eq_gamma]; exact gammaPdf_nonneg _ _ _ (half_pos hk) one_half_pos

theorem chi2_normalised (k : ℝ) (hk : 0 < k) : ∫⁻ x, ENNReal.ofReal (chi2Pdf k x) = 1 := by
  simp only [chi2_eq_gamma]
  exact gamma_normalised _ _ (half_pos hk) one_half_pos

/-- beta(concentration1 α, concentration0 β) -/
noncomputable def betaPdf (a b x : ℝ) : ℝ :=
  if 0 < x ∧ x < 1 then
    Real.Gamma (a + b) / (Real.Gamma a * Real.Gamma b) * x ^ (a - 1) * (1 - x) ^ (b - 1) else 0

theorem betaPdf_nonneg (a b x : ℝ) (ha : 0 < a) (hb : 0 < b) : 0 ≤ betaPdf a b x :=
  ite_zero_nonneg fun h => mul_nonneg (mul_nonneg
    (div_nonneg (Real.Gamma_pos_of_pos (add_pos ha hb)).le
      (mul_nonneg (Real.Gamma_pos_of_pos ha).le (Real.Gamma_pos_of_pos hb).le))
    (rpow_nonneg h.1.le _)) (rpow_nonneg (sub_nonneg.2 h.2.le) _)

/-- the first parameter (concentration1) is the exponent of `x`, the second of `1 − x` -/
theorem beta_swap (a b x : ℝ) : betaPdf a b x = betaPdf b a (1 - x) := by
  rw [betaPdf, betaPdf, sub_sub_cancel, add_comm b a, mul_comm (Real.Gamma b), mul_right_comm]
  exact if_congr (by rw [sub_pos, sub_lt_self_iff, and_comm]) rfl rfl

theorem beta_normalised (a b : ℝ) (ha : 0 < a) (hb : 0 < b) :
    ∫⁻ x, ENNReal.ofReal (betaPdf a b x) = 1 := by
  rw [← lintegral_betaPDF_eq_one ha hb]
  refine lintegral_congr (fun x => ?_)
  rw [betaPDF_eq]
  simp only [betaPdf, ProbabilityTheory.beta, one_div, inv_div]

/-- cauchy(loc x₀, scale γ) -/
noncomputable def cauchyPdf (x₀ γ x : ℝ) : ℝ := 1 / (π * γ * (1 + ((x - x₀) / γ) ^ 2))

theorem cauchyPdf_nonneg (x₀ γ x : ℝ) (hγ : 0 < γ) : 0 ≤ cauchyPdf x₀ γ x := by
  simp only [cauchyPdf]; positivity

/-- cauchy takes a scale -/
theorem cauchy_loc_scale (x₀ γ x : ℝ) :
    cauchyPdf x₀ γ x = 1 / γ * cauchyPdf 0 1 ((x - x₀) / γ) := by
  simp only [cauchyPdf, sub_zero, div_one, mul_one]
  simp only [one_div, mul_inv]
  ring

theorem cauchy_normalised (x₀ γ : ℝ) (hγ : 0 < γ) :
    ∫⁻ x, ENNReal.ofReal (cauchyPdf x₀ γ x) = 1 := by
  have hγ' : γ.toNNReal ≠ 0 := by
    simpa using hγ
  rw [← lintegral_cauchyPDF_eq_one x₀ hγ']
  refine lintegral_congr (fun x => ?_)
  rw [cauchyPDF_def, cauchyPDFReal_def']
  simp only [cauchyPdf, NNReal.coe_inv, Real.coe_toNNReal γ hγ.le, one_div, mul_inv]

/-- laplace(loc μ, scale b) -/
noncomputable def laplacePdf (μ b x : ℝ) : ℝ := 1 / (2 * b) * Real.exp (-|x - μ| / b)

theorem laplacePdf_nonneg (μ b x : ℝ) (hb : 0 < b) : 0 ≤ laplacePdf μ b x := by
  simp only [laplacePdf]; positivity

/-- laplace takes a scale (not a rate) -/
theorem laplace_loc_scale (μ b x : ℝ) (hb : 0 < b) :
    laplacePdf μ b x = 1 / b * laplacePdf 0 1 ((x - μ) / b) := by
  simp only [laplacePdf, sub_zero, div_one, mul_one]
  rw [abs_div, abs_of_pos hb, neg_div, ← mul_assoc, one_div_mul_one_div, mul_comm b]

theorem laplace_std_integral : ∫ x : ℝ, laplacePdf 0 1 x = 1 := by
  simp only [laplacePdf, sub_zero, div_one, mul_one]
  rw [integral_const_mul, integral_comp_abs (f := fun x => Real.exp (-x)), integral_exp_neg_Ioi_zero]
  norm_num

theorem laplace_normalised (μ b : ℝ) (hb : 0 < b) :
    ∫⁻ x, ENNReal.ofReal (laplacePdf μ b x) = 1 := by
  simp only [laplace_loc_scale μ b _ hb]
  exact locScale_normalised
    (lintegral_ofReal_eq_one (fun x => laplacePdf_nonneg 0 1 x one_pos) laplace_std_integral) μ b hb

/-- log_normal(loc μ, scale σ) -/
noncomputable def logNormalPdf (μ σ x : ℝ) : ℝ :=
  if 0 < x then 1 / (x * σ * Real.sqrt (2 * π)) * Real.exp (-(Real.log x - μ) ^ 2 / (2 * σ ^ 2)) else 0

theorem logNormalPdf_nonneg (μ σ x : ℝ) (hσ : 0 < σ) : 0 ≤ logNormalPdf μ σ x :=
  ite_zero_nonneg fun h => by positivity

theorem logNormal_eq_normal_log (μ σ x : ℝ) (hσ : 0 < σ) (hx : 0 < x) :
    logNormalPdf μ σ x = normalPdf μ σ (Real.log x) / x := by
  simp only [logNormalPdf, normalPdf, if_pos hx]
  rw [sqrt_two_pi_sq σ hσ, mul_div_right_comm]
  congr 1
  rw [one_div, div_eq_mul_inv, ← mul_inv, mul_rotate, mul_comm σ]

theorem logNormal_normalised (μ σ : ℝ) (hσ : 0 < σ) :
    ∫⁻ x, ENNReal.ofReal (logNormalPdf μ σ x) = 1 := by
  rw [lintegral_eq_Ioi_of_neg (fun x hx => by
      rw [logNormalPdf, if_neg (not_lt.2 hx.le), ENNReal.ofReal_zero]),
    lintegral_Ioi_eq_lintegral_comp_exp, ← normal_normalised μ σ hσ]
  refine lintegral_congr (fun y => ?_)
  rw [logNormal_eq_normal_log μ σ _ hσ (Real.exp_pos y), Real.log_exp,
    ← ENNReal.ofReal_mul (Real.exp_pos y).le, mul_div_cancel₀ _ (Real.exp_pos y).ne']

/-- half_normal(scale σ) -/
noncomputable def halfNormalPdf (σ x : ℝ) : ℝ :=
  if 0 ≤ x then Real.sqrt 2 / (σ * Real.sqrt π) * Real.exp (-x ^ 2 / (2 * σ ^ 2)) else 0

theorem halfNormalPdf_nonneg (σ x : ℝ) (hσ : 0 < σ) : 0 ≤ halfNormalPdf σ x :=
  ite_zero_nonneg fun _ => by positivity

theorem halfNormal_eq_two_mul_normal (σ x : ℝ) (hσ : 0 < σ) (hx : 0 ≤ x) :
    halfNormalPdf σ x = 2 * normalPdf 0 σ x := by
  simp only [halfNormalPdf, normalPdf, if_pos hx, sub_zero]
  rw [sqrt_two_pi_sq σ hσ, Real.sqrt_mul zero_le_two, ← mul_assoc]
  congr 1
  have h2 : Real.sqrt 2 * Real.sqrt 2 = 2 := Real.mul_self_sqrt zero_le_two
  have hπ : Real.sqrt π ≠ 0 := (Real.sqrt_pos.2 Real.pi_pos).ne'
  have h2' : Real.sqrt 2 ≠ 0 := (Real.sqrt_pos.2 zero_lt_two).ne'
  field_simp
  linear_combination h2

theorem halfNormal_normalised (σ : ℝ) (hσ : 0 < σ) :
    ∫⁻ x, ENNReal.ofReal (halfNormalPdf σ x) = 1 := by
  rw [lintegral_eq_Ioi_of_neg (fun x hx => by
      rw [halfNormalPdf, if_neg (not_le.2 hx), ENNReal.ofReal_zero]),
    ← normal_normalised 0 σ hσ, lintegral_even _ (fun x => by simp only [normalPdf, sub_zero, neg_sq])]
  refine setLIntegral_congr_fun measurableSet_Ioi (fun x hx => ?_)
  rw [halfNormal_eq_two_mul_normal σ x hσ (le_of_lt hx)]

/-- inverse_gamma(concentration α, scale β) -/
noncomputable def inverseGammaPdf (a b x : ℝ) : ℝ :=
  if 0 < x then b ^ a / Real.Gamma a * x ^ (-a - 1) * Real.exp (-(b / x)) else 0

theorem inverseGammaPdf_nonneg (a b x : ℝ) (ha : 0 < a) (hb : 0 < b) :
    0 ≤ inverseGammaPdf a b x :=
  ite_zero_nonneg fun h => mul_nonneg (mul_nonneg (div_nonneg (Real.rpow_nonneg hb.le a)
    (Real.Gamma_pos_of_pos ha).le) (Real.rpow_nonneg h.le _)) (Real.exp_pos _).le

theorem inverseGamma_eq_gamma_inv (a b x : ℝ) (hx : 0 < x) :
    inverseGammaPdf a b x = gammaPdf a b (1 / x) / x ^ 2 := by
  have hx' : 0 < 1 / x := one_div_pos.2 hx
  simp only [inverseGammaPdf, gammaPdf, if_pos hx, if_pos hx']
  have e1 : (1 / x) ^ (a - 1) / x ^ 2 = x ^ (-a - 1) := by
    rw [one_div, Real.inv_rpow hx.le, ← Real.rpow_neg hx.le, ← Real.rpow_natCast x 2,
      ← Real.rpow_sub hx]
    congr 1; push_cast; ring
  rw [mul_one_div, ← e1]; ring

theorem inverseGamma_normalised (a b : ℝ) (ha : 0 < a) (hb : 0 < b) :
    ∫⁻ x, ENNReal.ofReal (inverseGammaPdf a b x) = 1 := by
  rw [lintegral_eq_Ioi_of_neg (fun x hx => by
      rw [inverseGammaPdf, if_neg (not_lt.2 hx.le), ENNReal.ofReal_zero]),
    ← lintegral_gammaPdf_Ioi a b ha hb,
    ← lintegral_comp_rpow_Ioi (fun u => ENNReal.ofReal (gammaPdf a b u)) (neg_ne_zero.2 one_ne_zero)]
  refine setLIntegral_congr_fun measurableSet_Ioi (fun x hx => ?_)
  have hx : 0 < x := hx
  rw [inverseGamma_eq_gamma_inv a b x hx, ← ENNReal.ofReal_mul (by positivity), Real.rpow_neg_one,
    abs_neg, abs_one, one_mul, ← one_div, div_eq_mul_inv, mul_comm]
  congr 2
  rw [show (-1 - 1 : ℝ) = -(2 : ℕ) by norm_num, Real.rpow_neg hx.le, Real.rpow_natCast]

/-- weibull(concentration k, scale λ) -/
noncomputable def weibullPdf (k l x : ℝ) : ℝ :=
  if 0 ≤ x then k / l * (x / l) ^ (k - 1) * Real.exp (-(x / l) ^ k) else 0

theorem weibullPdf_nonneg (k l x : ℝ) (hk : 0 < k) (hl : 0 < l) : 0 ≤ weibullPdf k l x :=
  ite_zero_nonneg fun h => mul_nonneg (mul_nonneg (div_pos hk hl).le
    (Real.rpow_nonneg (div_nonneg h hl.le) _)) (Real.exp_pos _).le

theorem weibull_one_eq_exponential (l x : ℝ) :
    weibullPdf 1 l x = exponentialPdf (1 / l) x := by
  simp only [weibullPdf, exponentialPdf, sub_self, Real.rpow_zero, Real.rpow_one, mul_one,
    one_div_mul_eq_div]

theorem weibull_scale (k l x : ℝ) (hl : 0 < l) :
    weibullPdf k l x = 1 / l * weibullPdf k 1 (x / l) := by
  simp only [weibullPdf, div_one, le_div_iff₀ hl, zero_mul]
  split_ifs
  · ring
  · rw [mul_zero]

theorem weibull_std_normalised (k : ℝ) (hk : 0 < k) :
    ∫⁻ x, ENNReal.ofReal (weibullPdf k 1 x) = 1 := by
  rw [lintegral_eq_Ioi_of_neg (fun x hx => by
      rw [weibullPdf, if_neg (not_le.2 hx), ENNReal.ofReal_zero]),
    ← lintegral_exp_neg_Ioi,
    ← lintegral_comp_rpow_Ioi (fun u => ENNReal.ofReal (Real.exp (-u))) hk.ne']
  refine setLIntegral_congr_fun measurableSet_Ioi (fun x hx => ?_)
  have hx : 0 < x := hx
  rw [← ENNReal.ofReal_mul (by positivity), weibullPdf, if_pos hx.le, abs_of_pos hk, div_one,
    div_one]

theorem weibull_normalised (k l : ℝ) (hk : 0 < k) (hl : 0 < l) :
    ∫⁻ x, ENNReal.ofReal (weibullPdf k l x) = 1 := by
  have h := locScale_normalised (weibull_std_normalised k hk) 0 l hl
  simpa only [sub_zero, ← weibull_scale k _ _ hl] using h

/-- standard Student t density with ν degrees of freedom -/
noncomputable def studentTStd (ν x : ℝ) : ℝ :=
  Real.Gamma ((ν + 1) / 2) / (Real.Gamma (ν / 2) * Real.sqrt (ν * π)) * (1 + x ^ 2 / ν) ^ (-(ν + 1) / 2)

theorem studentTStd_nonneg (ν x : ℝ) (hν : 0 < ν) : 0 ≤ studentTStd ν x :=
  mul_nonneg (div_nonneg (Real.Gamma_pos_of_pos (half_pos (add_pos hν one_pos))).le
    (mul_nonneg (Real.Gamma_pos_of_pos (half_pos hν)).le (Real.sqrt_nonneg _)))
    (Real.rpow_nonneg (add_nonneg zero_le_one (div_nonneg (sq_nonneg x) hν.le)) _)

/-- substitution `t = x²/(ν+x²)`, which maps `(0,∞)` onto `(0,1)` -/
theorem lintegral_Ioo_eq_lintegral_comp_sq_div (G : ℝ → ENNReal) (ν : ℝ) (hν : 0 < ν) :
    ∫⁻ t in Set.Ioo 0 1, G t =
      ∫⁻ x in Set.Ioi 0, ENNReal.ofReal (2 * x * ν / (ν + x ^ 2) ^ 2) * G (x ^ 2 / (ν + x ^ 2)) := by
  have hc : ∀ x ∈ Set.Ioi (0:ℝ), 0 < ν + x ^ 2 := fun x hx => add_pos hν (pow_pos hx 2)
  have hd : ∀ x ∈ Set.Ioi (0:ℝ), HasDerivWithinAt (fun y : ℝ => y ^ 2 / (ν + y ^ 2))
      (2 * x * ν / (ν + x ^ 2) ^ 2) (Set.Ioi 0) x := by
    intro x hx
    have h1 := hasDerivAt_pow 2 x
    refine ((h1.div (h1.const_add ν) (hc x hx).ne').congr_deriv ?_).hasDerivWithinAt
    rw [Nat.cast_ofNat, Nat.add_one_sub_one, pow_one]
    ring
  have hinj : Set.InjOn (fun y : ℝ => y ^ 2 / (ν + y ^ 2)) (Set.Ioi 0) := by
    intro x hx y hy h
    have h' : x ^ 2 / (ν + x ^ 2) = y ^ 2 / (ν + y ^ 2) := h
    rw [div_eq_div_iff (hc x hx).ne' (hc y hy).ne'] at h'
    exact (sq_eq_sq₀ (le_of_lt hx) (le_of_lt hy)).1
      (mul_left_cancel₀ hν.ne' (by linear_combination h'))
  have himg : (fun y : ℝ => y ^ 2 / (ν + y ^ 2)) '' Set.Ioi 0 = Set.Ioo 0 1 := by
    ext t
    constructor
    · rintro ⟨y, hy, rfl⟩
      exact ⟨div_pos (pow_pos hy 2) (hc y hy), (div_lt_one (hc y hy)).2 (lt_add_of_pos_left _ hν)⟩
    · rintro ⟨ht0, ht1⟩
      have h1t : 0 < 1 - t := sub_pos.2 ht1
      have hq : 0 < ν * t / (1 - t) := div_pos (mul_pos hν ht0) h1t
      refine ⟨Real.sqrt (ν * t / (1 - t)), Real.sqrt_pos.mpr hq, ?_⟩
      simp only []
      rw [Real.sq_sqrt hq.le, div_eq_iff (add_pos hν hq).ne']
      linear_combination div_mul_cancel₀ (ν * t) h1t.ne'
  rw [← himg, lintegral_image_eq_lintegral_abs_deriv_mul measurableSet_Ioi hd hinj]
  refine setLIntegral_congr_fun measurableSet_Ioi (fun x hx => ?_)
  have hx : 0 < x := hx
  rw [abs_of_nonneg (by positivity)]

/-- on the positive half line twice the density is the beta(1/2, ν/2) density in `t = x²/(ν+x²)`
times the Jacobian of that substitution -/
theorem studentTStd_half (ν : ℝ) (hν : 0 < ν) :
    ∫⁻ x in Set.Ioi 0, ENNReal.ofReal (2 * studentTStd ν x) = 1 := by
  rw [← lintegral_betaPDF_eq_one (α := 1 / 2) (β := ν / 2) one_half_pos (half_pos hν),
    lintegral_betaPDF, lintegral_Ioo_eq_lintegral_comp_sq_div _ ν hν]
  refine setLIntegral_congr_fun measurableSet_Ioi (fun x hx => ?_)
  have hx : 0 < x := hx
  have hc : 0 < ν + x ^ 2 := add_pos hν (pow_pos hx 2)
  rw [← ENNReal.ofReal_mul (by positivity)]
  congr 1
  -- with `c = ν + x²` both sides are `(ν/c) ^ (ν/2 - 1)` times an algebraic factor in `√c`, `√ν`,
  -- `√π` and the two `Γ` values
  rw [studentTStd, one_add_div hν.ne', one_sub_div hc.ne', add_sub_cancel_right]
  generalize ν + x ^ 2 = c at hc ⊢
  have hw : 0 < ν / c := div_pos hν hc
  have hsc : Real.sqrt c * Real.sqrt c = c := Real.mul_self_sqrt hc.le
  have hsc' : Real.sqrt c ≠ 0 := (Real.sqrt_pos.mpr hc).ne'
  have hsν : Real.sqrt ν ≠ 0 := (Real.sqrt_pos.mpr hν).ne'
  have hsπ : Real.sqrt π ≠ 0 := (Real.sqrt_pos.mpr Real.pi_pos).ne'
  have hG1 : Real.Gamma ((ν + 1) / 2) ≠ 0 :=
    (Real.Gamma_pos_of_pos (half_pos (add_pos hν one_pos))).ne'
  have hG2 : Real.Gamma (ν / 2) ≠ 0 := (Real.Gamma_pos_of_pos (half_pos hν)).ne'
  have hpow : (ν / c) ^ ((ν + 1) / 2) = (ν / c) ^ (ν / 2 - 1) * (ν / c) * √(ν / c) := by
    rw [show (ν + 1) / 2 = (ν / 2 - 1) + 1 + 1 / 2 by ring, rpow_add hw, rpow_add_one hw.ne',
      ← sqrt_eq_rpow]
  rw [show ((1 / 2 : ℝ) - 1) = -(1 / 2) by norm_num,
    Real.rpow_neg (div_nonneg (sq_nonneg x) hc.le), ← Real.sqrt_eq_rpow,
    Real.sqrt_div (sq_nonneg x), Real.sqrt_sq hx.le, inv_div,
    neg_div, rpow_neg (div_pos hc hν).le, ← inv_rpow (div_pos hc hν).le, inv_div, hpow,
    sqrt_div hν.le, ProbabilityTheory.beta, Real.Gamma_one_half_eq, ← add_div, add_comm (1:ℝ),
    Real.sqrt_mul hν.le π]
  generalize (ν / c) ^ (ν / 2 - 1) = W
  generalize Real.sqrt c = sc at *
  generalize Real.sqrt ν = sn at *
  generalize Real.sqrt π = sp at *
  generalize Real.Gamma ((ν + 1) / 2) = G1 at *
  generalize Real.Gamma (ν / 2) = G2 at *
  subst hsc
  field_simp

theorem studentTStd_normalised (ν : ℝ) (hν : 0 < ν) :
    ∫⁻ x, ENNReal.ofReal (studentTStd ν x) = 1 := by
  rw [lintegral_even _ (fun x => by simp only [studentTStd, neg_sq]), studentTStd_half ν hν]

/-- student_t(df ν, loc μ, scale σ) -/
noncomputable def studentTPdf (ν μ σ x : ℝ) : ℝ :=
  Real.Gamma ((ν + 1) / 2) / (Real.Gamma (ν / 2) * Real.sqrt (ν * π) * σ) *
    (1 + ((x - μ) / σ) ^ 2 / ν) ^ (-(ν + 1) / 2)

theorem studentT_eq_std (ν μ σ x : ℝ) :
    studentTPdf ν μ σ x = 1 / σ * studentTStd ν ((x - μ) / σ) := by
  simp only [studentTPdf, studentTStd]
  ring

theorem studentTPdf_nonneg (ν μ σ x : ℝ) (hν : 0 < ν) (hσ : 0 < σ) : 0 ≤ studentTPdf ν μ σ x := by
  rw [studentT_eq_std]
  exact mul_nonneg (one_div_pos.2 hσ).le (studentTStd_nonneg ν _ hν)

theorem studentT_normalised (ν μ σ : ℝ) (hν : 0 < ν) (hσ : 0 < σ) :
    ∫⁻ x, ENNReal.ofReal (studentTPdf ν μ σ x) = 1 := by
  simp only [studentT_eq_std]
  exact locScale_normalised (studentTStd_normalised ν hν) μ σ hσ

/-- ν = 1 is the Cauchy distribution -/
theorem studentT_one_eq_cauchy (μ σ x : ℝ) : studentTPdf 1 μ σ x = cauchyPdf μ σ x := by
  simp only [studentTPdf, cauchyPdf]
  have e1 : ((1:ℝ) + 1) / 2 = 1 := by norm_num
  have e2 : -((1:ℝ) + 1) / 2 = -1 := by norm_num
  rw [e1, e2, Real.Gamma_one, Real.Gamma_one_half_eq, one_mul, Real.rpow_neg_one, div_one,
    ← sq, Real.sq_sqrt Real.pi_pos.le]
  simp only [one_div, mul_inv]

end Genjax.DistSpec

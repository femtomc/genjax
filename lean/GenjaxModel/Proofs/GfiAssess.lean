import GenjaxModel.Proofs.GfiCohInv
import Mathlib.Data.List.Forall2
/-!
  A coherent trace reports `score = -assess(its choices)` and the program's return value, for
  every program, Cond at any depth included (C01, C02, C03, C05).

  A Cond trace keeps both branch traces; its choice map is the leafwise `where`-merge
  `CM.mergeCheck check (choices of true branch) (choices of false branch)`, and
  `GF.assess (.cond t f)` evaluates BOTH branches on that merged map and selects by the check.
  The merged map extends the selected branch's map and has the shape of the other one (`CM.Ext`,
  `CM.Shape`, both instances of `CM.Rel`; `CM.mergeCheck_rel`); `assess` gives the same result on
  every map that extends the given one (`assess_ext`), and whether it raises depends neither on the
  leaf values nor on the arguments, only on the shape of the map (`assess_shape`).
-/
namespace Genjax

theorem forall₂_iff_getElem?_rel {α β : Type} {r : α → β → Prop} {a : List α} {b : List β} :
    List.Forall₂ r a b ↔
      a.length = b.length ∧ ∀ (i : Nat) x y, a[i]? = some x → b[i]? = some y → r x y := by
  rw [List.forall₂_iff_get]
  refine and_congr_right fun _ => ⟨fun h i x y hx hy => ?_, fun h i h1 h2 =>
    h i _ _ (List.getElem?_eq_getElem h1) (List.getElem?_eq_getElem h2)⟩
  obtain ⟨h1, rfl⟩ := List.getElem?_eq_some_iff.mp hx
  obtain ⟨h2, rfl⟩ := List.getElem?_eq_some_iff.mp hy
  exact h i h1 h2

theorem CML.find?_mem : (l : CML) → (k : String) → (v : CM) → l.find? k = some v → v ∈ l.toList := by
  intro l k v
  induction l using CML.list_induction with
  | nil => exact fun h => nomatch h
  | cons k' v' rest ih =>
    intro h
    simp only [CML.find?] at h
    simp only [CML.toList, List.mem_cons]
    split at h
    · exact .inl (Option.some.inj h).symm
    · exact .inr (ih h)

theorem CML.find?_erase_ne : (b : CML) → (k k' : String) → k' ≠ k →
    (b.erase k).find? k' = b.find? k' := by
  intro b k k' hne
  induction b using CML.list_induction with
  | nil => rfl
  | cons k0 v rest ih =>
    by_cases hk : k = k0
    · subst hk
      simp only [CML.erase, CML.find?, if_true, if_neg hne]
    · simp only [CML.erase, if_neg hk, CML.find?, ih]

section Choices
variable {R : Type}

theorem TrL.choices_cons {k : String} {t : Tr R} {rest : TrL R} {xl : CML} :
    (TrL.cons k t rest).choices = some xl ↔
      ∃ c r, t.choices = some c ∧ rest.choices = some r ∧ xl = .cons k c r := by
  simp only [TrL.choices, Option.bind_eq_bind, Option.bind_eq_some_iff, Option.pure_def,
    Option.some.injEq]
  exact ⟨fun ⟨c, hc, r, hr, e⟩ => ⟨c, r, hc, hr, e.symm⟩,
    fun ⟨c, r, hc, hr, e⟩ => ⟨c, hc, r, hr, e.symm⟩⟩

theorem TrL.choices_toList : (l : TrL R) → (xl : CML) → l.choices = some xl →
    List.Forall₂ (fun t c => t.choices = some c) l.toList xl.toList := by
  intro l
  induction l using TrL.list_induction with
  | nil => intro _ h; cases h; exact .nil
  | cons k t rest ih =>
    intro _ h
    obtain ⟨c, r, hc, hr, rfl⟩ := TrL.choices_cons.mp h
    exact .cons hc (ih r hr)

theorem TrL.choices_find : (l : TrL R) → (xl : CML) → l.choices = some xl →
    ∀ a t, l.find? a = some t → ∃ c, t.choices = some c ∧ xl.find? a = some c := by
  intro l
  induction l using TrL.list_induction with
  | nil => exact fun _ _ _ _ hf => nomatch hf
  | cons k t' rest ih =>
    intro _ h a t hf
    obtain ⟨c, r, hc, hr, rfl⟩ := TrL.choices_cons.mp h
    simp only [TrL.find?] at hf
    simp only [CML.find?]
    split at hf
    · rename_i e; rw [if_pos e]; cases hf; exact ⟨c, hc, rfl⟩
    · rename_i e; rw [if_neg e]; exact ih r hr a t hf

end Choices

/-! ## "y covers x" on choice maps -/

/-- `CM.Rel L x y`: leaves are related by `L`; for dict nodes every address that `x` resolves
    (`find?`, i.e. first occurrence) is resolved by `y` to a related sub-map (extra addresses in `y`
    are allowed); vectorised maps are related lane by lane (same number of lanes). -/
inductive CM.Rel (L : Val → Val → Prop) : CM → CM → Prop
  | leaf {v w : Val} : L v w → CM.Rel L (.leaf v) (.leaf w)
  | node {a b : CML} :
      (∀ k, (a.find? k).isSome → (b.find? k).isSome) →
      (∀ k va vb, a.find? k = some va → b.find? k = some vb → CM.Rel L va vb) →
      CM.Rel L (.node a) (.node b)
  | lanes {a b : CML} :
      a.toList.length = b.toList.length →
      (∀ (i : Nat) va vb, a.toList[i]? = some va → b.toList[i]? = some vb → CM.Rel L va vb) →
      CM.Rel L (.lanes a) (.lanes b)

/-- `y` extends `x`: same leaves, every address of `x` present in `y` with an extension -/
abbrev CM.Ext : CM → CM → Prop := CM.Rel Eq
/-- `y` has the shape of `x` on `x`'s addresses (leaf values arbitrary) -/
abbrev CM.Shape : CM → CM → Prop := CM.Rel (fun _ _ => True)

/-- the dict-level relation in the form it is used: look-ups succeed and are related -/
def CML.RelN (L : Val → Val → Prop) (a b : CML) : Prop :=
  ∀ k va, a.find? k = some va → ∃ vb, b.find? k = some vb ∧ CM.Rel L va vb

theorem CM.Rel.node_iff {L : Val → Val → Prop} {a b : CML} :
    CM.Rel L (.node a) (.node b) ↔ CML.RelN L a b := by
  constructor
  · intro h k va hk
    cases h with
    | node h1 h2 =>
      obtain ⟨vb, hvb⟩ := Option.isSome_iff_exists.mp (h1 k (hk ▸ rfl))
      exact ⟨vb, hvb, h2 k va vb hk hvb⟩
  · intro h
    refine .node (fun k hk => ?_) (fun k va vb hka hkb => ?_)
    · obtain ⟨va, hva⟩ := Option.isSome_iff_exists.mp hk
      obtain ⟨vb, hvb, _⟩ := h k va hva
      exact hvb ▸ rfl
    · obtain ⟨vb', hvb', hr⟩ := h k va hka
      cases hkb.symm.trans hvb'
      exact hr

theorem CM.Rel.lanes_iff {L : Val → Val → Prop} {a b : CML} :
    CM.Rel L (.lanes a) (.lanes b) ↔ List.Forall₂ (CM.Rel L) a.toList b.toList :=
  ⟨fun h => by cases h with | lanes h1 h2 => exact forall₂_iff_getElem?_rel.mpr ⟨h1, h2⟩,
    fun h => .lanes (forall₂_iff_getElem?_rel.mp h).1 (forall₂_iff_getElem?_rel.mp h).2⟩

theorem CM.Rel.leaf_iff {L : Val → Val → Prop} {v : Val} {y : CM} :
    CM.Rel L (.leaf v) y ↔ ∃ w, y = .leaf w ∧ L v w := by
  constructor
  · intro h; cases h with | leaf h => exact ⟨_, rfl, h⟩
  · rintro ⟨w, rfl, h⟩; exact .leaf h

theorem CM.Rel.node_left {L : Val → Val → Prop} {a : CML} {y : CM} (h : CM.Rel L (.node a) y) :
    ∃ b, y = .node b ∧ CML.RelN L a b := by
  cases h with | node h1 h2 => exact ⟨_, rfl, CM.Rel.node_iff.mp (.node h1 h2)⟩

theorem CM.Rel.lanes_left {L : Val → Val → Prop} {a : CML} {y : CM} (h : CM.Rel L (.lanes a) y) :
    ∃ b, y = .lanes b ∧ List.Forall₂ (CM.Rel L) a.toList b.toList := by
  cases h with | lanes h1 h2 => exact ⟨_, rfl, CM.Rel.lanes_iff.mp (.lanes h1 h2)⟩

theorem CM.Rel.refl_all {L : Val → Val → Prop} (hL : ∀ v, L v v) :
    (∀ x : CM, CM.Rel L x x) ∧ ∀ l : CML, ∀ v ∈ l.toList, CM.Rel L v v := by
  apply CM.rec_both
  case leaf => exact fun v => .leaf (hL v)
  case node =>
    refine fun a ih => .node (fun _ h => h) fun k va vb ha hb => ?_
    cases ha.symm.trans hb
    exact ih va (CML.find?_mem a k va ha)
  case lanes =>
    refine fun a ih => .lanes rfl fun i va vb ha hb => ?_
    cases ha.symm.trans hb
    exact ih va (List.mem_of_getElem? ha)
  case nil => exact fun _ h => nomatch h
  case cons =>
    intro k v' rest ihv ihr v h
    rcases List.mem_cons.mp h with rfl | h
    exacts [ihv, ihr v h]

theorem CM.Rel.refl {L : Val → Val → Prop} (hL : ∀ v, L v v) (x : CM) : CM.Rel L x x :=
  (CM.Rel.refl_all hL).1 x

section Trans
variable {L1 L2 L3 : Val → Val → Prop}

private theorem forall2_trans_mem {α : Type} {r1 r2 r3 : α → α → Prop} (la : List α) :
    (∀ v ∈ la, ∀ y z, r1 v y → r2 y z → r3 v z) → ∀ lb lc,
      List.Forall₂ r1 la lb → List.Forall₂ r2 lb lc → List.Forall₂ r3 la lc := by
  induction la with
  | nil => intro _ lb lc h1 h2; cases h1; cases h2; exact .nil
  | cons a la ih =>
    intro h lb lc h1 h2
    cases h1 with
    | cons h1a h1r =>
      cases h2 with
      | cons h2a h2r =>
        exact .cons (h a List.mem_cons_self _ _ h1a h2a)
          (ih (fun v hv => h v (List.mem_cons_of_mem _ hv)) _ _ h1r h2r)

mutual
  theorem CM.Rel.trans (hL : ∀ a b c, L1 a b → L2 b c → L3 a c) :
      (x y z : CM) → CM.Rel L1 x y → CM.Rel L2 y z → CM.Rel L3 x z
    | .leaf v, y, z, h1, h2 => by
        obtain ⟨w, rfl, hw⟩ := CM.Rel.leaf_iff.mp h1
        obtain ⟨u, rfl, hu⟩ := CM.Rel.leaf_iff.mp h2
        exact .leaf (hL _ _ _ hw hu)
    | .node a, y, z, h1, h2 => by
        obtain ⟨b, rfl, hb⟩ := h1.node_left
        obtain ⟨c, rfl, hc⟩ := h2.node_left
        refine CM.Rel.node_iff.mpr (fun k va hk => ?_)
        obtain ⟨vb, hvb, r1⟩ := hb k va hk
        obtain ⟨vc, hvc, r2⟩ := hc k vb hvb
        exact ⟨vc, hvc, CML.rel_trans hL a va (CML.find?_mem a k va hk) vb vc r1 r2⟩
    | .lanes a, y, z, h1, h2 => by
        obtain ⟨b, rfl, hb⟩ := h1.lanes_left
        obtain ⟨c, rfl, hc⟩ := h2.lanes_left
        exact CM.Rel.lanes_iff.mpr (forall2_trans_mem _ (CML.rel_trans hL a) _ _ hb hc)
  termination_by structural x => x
  theorem CML.rel_trans (hL : ∀ a b c, L1 a b → L2 b c → L3 a c) :
      (l : CML) → ∀ v ∈ l.toList, ∀ y z, CM.Rel L1 v y → CM.Rel L2 y z → CM.Rel L3 v z
    | .nil, v, h, _, _, _, _ => by simp [CML.toList] at h
    | .cons k v' rest, v, h, y, z, h1, h2 => by
        simp only [CML.toList, List.mem_cons] at h
        rcases h with h | h
        · rw [h] at h1 ⊢; exact CM.Rel.trans hL v' y z h1 h2
        · exact CML.rel_trans hL rest v h y z h1 h2
  termination_by structural l => l
end

end Trans

theorem CM.Shape.trans {x y z : CM} (h1 : CM.Shape x y) (h2 : CM.Shape y z) : CM.Shape x z :=
  CM.Rel.trans (fun _ _ _ _ _ => trivial) x y z h1 h2

theorem CM.Ext.toShape {x y : CM} (h : CM.Ext x y) : CM.Shape x y :=
  CM.Rel.trans (L2 := Eq) (fun _ _ _ _ _ => trivial) x y y h (CM.Rel.refl (fun _ => rfl) y)

/-! `CML.RelN L a m` for a map `m` that is built entry by entry -/

theorem CML.RelN.cons {L : Val → Val → Prop} {k : String} {v w : CM} {a b : CML}
    (hv : CM.Rel L v w) (h : CML.RelN L a b) : CML.RelN L (.cons k v a) (.cons k w b) := by
  intro k' va hk'
  simp only [CML.find?] at hk' ⊢
  split at hk'
  · rename_i e; rw [if_pos e]; cases hk'; exact ⟨w, rfl, hv⟩
  · rename_i e; rw [if_neg e]; exact h k' va hk'

theorem CML.RelN.of_erase {L : Val → Val → Prop} {k : String} {v w : CM} {b r : CML}
    (hk : b.find? k = some v) (hv : CM.Rel L v w) (h : CML.RelN L (b.erase k) r) :
    CML.RelN L b (.cons k w r) := by
  intro k' vb hk'
  simp only [CML.find?]
  split
  · subst k'; cases hk.symm.trans hk'; exact ⟨w, rfl, hv⟩
  · rename_i hne
    exact h k' vb (by rw [CML.find?_erase_ne b k k' hne]; exact hk')

theorem CML.RelN.cons_right {L : Val → Val → Prop} {k : String} {w : CM} {b r : CML}
    (hk : b.find? k = none) (h : CML.RelN L b r) : CML.RelN L b (.cons k w r) := by
  intro k' vb hk'
  simp only [CML.find?]
  split
  · subst k'; cases hk.symm.trans hk'
  · exact h k' vb hk'

/-! ## the merged map covers both branch maps -/

section Merge
variable (c : Bool) (L1 L2 : Val → Val → Prop)
  (h1 : ∀ v w, L1 v (if c then v else w)) (h2 : ∀ v w, L2 w (if c then v else w))

include h1 h2 in
theorem mergeCheck_rel_all :
    (∀ a b m : CM, CM.mergeCheck c a b = some m → CM.Rel L1 a m ∧ CM.Rel L2 b m) ∧
    ∀ a : CML,
      (∀ b m, CML.mergeCheck c a b = some m → CML.RelN L1 a m ∧ CML.RelN L2 b m) ∧
      ∀ b m, CML.mergeLanes c a b = some m →
        List.Forall₂ (CM.Rel L1) a.toList m.toList ∧ List.Forall₂ (CM.Rel L2) b.toList m.toList := by
  have hL1 : ∀ v, L1 v v := fun v => by simpa only [ite_self] using h1 v v
  have hL2 : ∀ v, L2 v v := fun v => by simpa only [ite_self] using h2 v v
  apply CM.rec_both
  case leaf =>
    intro va b m h
    cases b <;> simp only [CM.mergeCheck, Option.some.injEq, reduceCtorEq] at h
    subst h
    exact ⟨.leaf (h1 _ _), .leaf (h2 _ _)⟩
  case node =>
    intro a ih b m h
    cases b <;> simp only [CM.mergeCheck, Option.map_eq_some_iff, reduceCtorEq] at h
    obtain ⟨m', hm', rfl⟩ := h
    have := ih.1 _ m' hm'
    exact ⟨CM.Rel.node_iff.mpr this.1, CM.Rel.node_iff.mpr this.2⟩
  case lanes =>
    intro a ih b m h
    cases b <;> simp only [CM.mergeCheck, Option.map_eq_some_iff, reduceCtorEq] at h
    obtain ⟨m', hm', rfl⟩ := h
    have := ih.2 _ m' hm'
    exact ⟨CM.Rel.lanes_iff.mpr this.1, CM.Rel.lanes_iff.mpr this.2⟩
  case nil =>
    refine ⟨fun b m h => ?_, fun b m h => ?_⟩
    · cases h
      exact ⟨fun _ _ hk => (nomatch hk), fun k vb hk => ⟨vb, hk, CM.Rel.refl hL2 vb⟩⟩
    · cases b <;> simp only [CML.mergeLanes, Option.some.injEq, reduceCtorEq] at h
      subst h
      exact ⟨.nil, .nil⟩
  case cons =>
    intro k v rest ihv ihr
    refine ⟨fun b m h => ?_, fun b m h => ?_⟩
    · simp only [CML.mergeCheck] at h
      split at h
      · rename_i v' hv'
        simp only [Option.bind_eq_bind, Option.bind_eq_some_iff, Option.pure_def,
          Option.some.injEq] at h
        obtain ⟨mv, hmv, r, hr, rfl⟩ := h
        have hv := ihv v' mv hmv
        have hrest := ihr.1 (b.erase k) r hr
        exact ⟨.cons hv.1 hrest.1, .of_erase hv' hv.2 hrest.2⟩
      · rename_i hv'
        simp only [Option.bind_eq_bind, Option.bind_eq_some_iff, Option.pure_def,
          Option.some.injEq] at h
        obtain ⟨r, hr, rfl⟩ := h
        have hrest := ihr.1 b r hr
        exact ⟨.cons (CM.Rel.refl hL1 v) hrest.1, .cons_right hv' hrest.2⟩
    · cases b with
      | nil => simp only [CML.mergeLanes, reduceCtorEq] at h
      | cons k' v' rest' =>
        simp only [CML.mergeLanes, Option.bind_eq_bind, Option.bind_eq_some_iff, Option.pure_def,
          Option.some.injEq] at h
        obtain ⟨mv, hmv, r, hr, rfl⟩ := h
        have hv := ihv v' mv hmv
        have hrest := ihr.2 rest' r hr
        exact ⟨.cons hv.1 hrest.1, .cons hv.2 hrest.2⟩

include h1 h2 in
theorem CM.mergeCheck_rel : (a b m : CM) → CM.mergeCheck c a b = some m →
    CM.Rel L1 a m ∧ CM.Rel L2 b m :=
  (mergeCheck_rel_all c L1 L2 h1 h2).1

include h1 h2 in
theorem CML.mergeLanes_rel : (a b m : CML) → CML.mergeLanes c a b = some m →
    List.Forall₂ (CM.Rel L1) a.toList m.toList ∧ List.Forall₂ (CM.Rel L2) b.toList m.toList :=
  fun a => ((mergeCheck_rel_all c L1 L2 h1 h2).2 a).2

end Merge

theorem CM.mergeCheck_true {a b m : CM} (h : CM.mergeCheck true a b = some m) :
    CM.Ext a m ∧ CM.Shape b m :=
  CM.mergeCheck_rel true Eq (fun _ _ => True) (fun _ _ => rfl) (fun _ _ => trivial) a b m h

theorem CM.mergeCheck_false {a b m : CM} (h : CM.mergeCheck false a b = some m) :
    CM.Shape a m ∧ CM.Ext b m :=
  CM.mergeCheck_rel false (fun _ _ => True) Eq (fun _ _ => trivial) (fun _ _ => rfl) a b m h

section Assess
variable {R : Type} [Zero R] [Add R] (P : Prims R)

/-! ## `assess` is monotone under extension of the choice map -/

theorem assess_ext_all :
    (∀ (g : GF) (x y : CM) (args : List Val) (r : R × Val),
      CM.Ext x y → g.assess P x args = some r → g.assess P y args = some r) ∧
    ∀ (b : Body) (x y : CML) (env : List Val) (seen : List String) (r : R × Val),
      CML.RelN Eq x y → b.assess P x env seen = some r → b.assess P y env seen = some r := by
  apply GF.rec_both
  case dist =>
    intro d x y args r hxy h
    obtain ⟨v, rfl, rfl⟩ := (GF.assess_dist_iff P).mp h
    obtain ⟨w, rfl, rfl⟩ := CM.Rel.leaf_iff.mp hxy
    exact h
  case fn =>
    intro body ih x y args r hxy h
    obtain ⟨xl, rfl, hb⟩ := (GF.assess_fn_iff P).mp h
    obtain ⟨yl, rfl, hrel⟩ := hxy.node_left
    exact ih xl yl _ _ r hrel hb
  case vmap =>
    intro g axes n ih x y args r hxy h
    obtain ⟨xl, rfl, hlen, rs, hrs, rfl⟩ := (GF.assess_vmap_iff P).mp h
    obtain ⟨yl, rfl, hrel⟩ := hxy.lanes_left
    exact (GF.assess_vmap_iff P).mpr ⟨yl, rfl, hrel.length_eq ▸ hlen, rs,
      forLanes_rel_some (f := fun i xi => g.assess P xi (laneArgs axes args i))
        (fun i x y b hxy hx => ih x y _ b hxy hx) hrel hrs, rfl⟩
  case scan =>
    intro g n ih x y args r hxy h
    obtain ⟨xl, rfl, hlen, rs, hrs, rfl⟩ := (GF.assess_scan_iff P).mp h
    obtain ⟨yl, rfl, hrel⟩ := hxy.lanes_left
    refine (GF.assess_scan_iff P).mpr ⟨yl, rfl, hrel.length_eq ▸ hlen, rs,
      forSteps_rel_some (fun c i x y b hxy hx => ?_) hrel hrs, rfl⟩
    obtain ⟨p, hp, e⟩ := (assessStep_iff P).mp hx
    exact (assessStep_iff P).mpr ⟨p, ih x y _ p hxy hp, e⟩
  case cond =>
    intro t f iht ihf x y args r hxy h
    obtain ⟨p, hp, q, hq, rfl⟩ := (GF.assess_cond_iff P).mp h
    exact (GF.assess_cond_iff P).mpr ⟨p, iht x y _ p hxy hp, q, ihf x y _ q hxy hq, rfl⟩
  case ret => exact fun e x y env seen r hxy h => h
  case call =>
    intro addr g es rest ihg ihr x y env seen r hxy h
    obtain ⟨hs, sub, hsub, p, hp, q, hq, rfl⟩ := (Body.assess_call_iff P).mp h
    obtain ⟨sub', hsub', hrel⟩ := hxy addr sub hsub
    exact (Body.assess_call_iff P).mpr ⟨hs, sub', hsub', p, ihg sub sub' _ p hrel hp, q,
      ihr x y _ _ q hxy hq, rfl⟩

theorem assess_ext (g : GF) (x y : CM) (args : List Val) (r : R × Val)
    (hxy : CM.Ext x y) (h : g.assess P x args = some r) : g.assess P y args = some r :=
  (assess_ext_all P).1 g x y args r hxy h

theorem assess_ext_body : (b : Body) → ∀ (x y : CML) (env : List Val) (seen : List String)
    (r : R × Val), CML.RelN Eq x y → b.assess P x env seen = some r →
    b.assess P y env seen = some r :=
  (assess_ext_all P).2

/-! ## whether `assess` raises depends only on the shape of the map -/

theorem assess_shape_all :
    (∀ (g : GF) (x y : CM) (args args' : List Val),
      CM.Shape x y → (∃ r, g.assess P x args = some r) → ∃ r, g.assess P y args' = some r) ∧
    ∀ (b : Body) (x y : CML) (env env' : List Val) (seen : List String),
      CML.RelN (fun _ _ => True) x y →
      (∃ r, b.assess P x env seen = some r) → ∃ r, b.assess P y env' seen = some r := by
  apply GF.rec_both
  case dist =>
    intro d x y args args' hxy ⟨r, h⟩
    obtain ⟨v, rfl, -⟩ := (GF.assess_dist_iff P).mp h
    obtain ⟨w, rfl, -⟩ := CM.Rel.leaf_iff.mp hxy
    exact ⟨_, rfl⟩
  case fn =>
    intro body ih x y args args' hxy ⟨r, h⟩
    obtain ⟨xl, rfl, hb⟩ := (GF.assess_fn_iff P).mp h
    obtain ⟨yl, rfl, hrel⟩ := hxy.node_left
    exact ih xl yl _ _ _ hrel ⟨r, hb⟩
  case vmap =>
    intro g axes n ih x y args args' hxy ⟨r, h⟩
    obtain ⟨xl, rfl, hlen, rs, hrs, -⟩ := (GF.assess_vmap_iff P).mp h
    obtain ⟨yl, rfl, hrel⟩ := hxy.lanes_left
    obtain ⟨rs', hrs'⟩ := forLanes_rel_defined
      (f' := fun i xi => g.assess P xi (laneArgs axes args' i))
      (fun i x y hxy hx => ih x y _ _ hxy hx) hrel ⟨rs, hrs⟩
    exact ⟨_, (GF.assess_vmap_iff P).mpr
      ⟨yl, rfl, hrel.length_eq ▸ hlen, rs', hrs', rfl⟩⟩
  case scan =>
    intro g n ih x y args args' hxy ⟨r, h⟩
    obtain ⟨xl, rfl, hlen, rs, hrs, -⟩ := (GF.assess_scan_iff P).mp h
    obtain ⟨yl, rfl, hrel⟩ := hxy.lanes_left
    obtain ⟨rs', hrs'⟩ := forSteps_rel_defined (f' := assessStep P g args')
      (c' := args'.getD 0 .nil)
      (fun c c' i x y hxy ⟨_, hx⟩ => by
        obtain ⟨p, hp, -⟩ := (assessStep_iff P).mp hx
        obtain ⟨p', hp'⟩ := ih x y _ [c', (args'.getD 1 .nil).nth i] hxy ⟨p, hp⟩
        exact ⟨_, (assessStep_iff P).mpr ⟨p', hp', rfl⟩⟩) hrel ⟨_, hrs⟩
    exact ⟨_, (GF.assess_scan_iff P).mpr
      ⟨yl, rfl, hrel.length_eq ▸ hlen, rs', hrs', rfl⟩⟩
  case cond =>
    intro t f iht ihf x y args args' hxy ⟨r, h⟩
    obtain ⟨p, hp, q, hq, -⟩ := (GF.assess_cond_iff P).mp h
    obtain ⟨p', hp'⟩ := iht x y _ (args'.drop 1) hxy ⟨p, hp⟩
    obtain ⟨q', hq'⟩ := ihf x y _ (args'.drop 1) hxy ⟨q, hq⟩
    exact ⟨_, (GF.assess_cond_iff P).mpr ⟨p', hp', q', hq', rfl⟩⟩
  case ret => exact fun e x y env env' seen hxy _ => ⟨(0, e.eval env'), rfl⟩
  case call =>
    intro addr g es rest ihg ihr x y env env' seen hxy ⟨r, h⟩
    obtain ⟨hs, sub, hsub, p, hp, q, hq, -⟩ := (Body.assess_call_iff P).mp h
    obtain ⟨sub', hsub', hrel⟩ := hxy addr sub hsub
    obtain ⟨p', hp'⟩ := ihg sub sub' _ (es.map (·.eval env')) hrel ⟨p, hp⟩
    obtain ⟨q', hq'⟩ := ihr x y _ (env' ++ [p'.2]) _ hxy ⟨q, hq⟩
    exact ⟨_, (Body.assess_call_iff P).mpr ⟨hs, sub', hsub', p', hp', q', hq', rfl⟩⟩

theorem assess_shape_body : (b : Body) → ∀ (x y : CML) (env env' : List Val)
    (seen : List String), CML.RelN (fun _ _ => True) x y →
    (∃ r, b.assess P x env seen = some r) → ∃ r, b.assess P y env' seen = some r :=
  (assess_shape_all P).2

theorem assess_shape (g : GF) (x y : CM) (args args' : List Val)
    (hxy : CM.Shape x y) (h : (g.assess P x args).isSome) : (g.assess P y args').isSome :=
  Option.isSome_iff_exists.mpr
    ((assess_shape_all P).1 g x y args args' hxy (Option.isSome_iff_exists.mp h))

end Assess

/-! ## coherent traces: `assess(choices) = (-score, retval)` -/

section Main
variable {R : Type} [AddCommGroup R] (P : Prims R)

private theorem lanes_assess {coh : List Val → Tr R → Prop} {axes : List Bool} {args : List Val}
    {f : Nat → CM → Option (R × Val)}
    (hf : ∀ i t c, coh (laneArgs axes args i) t → t.choices = some c →
      f i c = some (-t.score, t.retval)) :
    ∀ (l : TrL R) (xl : CML) (i : Nat), l.choices = some xl → lanesCoh coh axes args i l.toList →
      xl.toList.length = l.toList.length ∧ ∃ rs, forLanes f i xl.toList = some rs ∧
        sumR (rs.map (·.1)) = -l.scoreSum ∧ Val.ofList (rs.map (·.2)) = l.retvals := by
  intro l
  induction l using TrL.list_induction with
  | nil => intro _ i h _; cases h; exact ⟨rfl, [], rfl, neg_zero.symm, rfl⟩
  | cons k t rest ih =>
    intro _ i h hc
    obtain ⟨c, r, hc1, hr, rfl⟩ := TrL.choices_cons.mp h
    obtain ⟨hlen, rs, hrs, hs, hv⟩ := ih r (i + 1) hr hc.2
    refine ⟨congrArg (· + 1) hlen, _, forLanes_cons.mpr ⟨_, rs, hf i t c hc.1 hc1, hrs, rfl⟩, ?_, ?_⟩
    · simp only [List.map_cons, sumR, hs, TrL.scoreSum, neg_add]
    · simp only [List.map_cons, Val.ofList, hv, TrL.retvals]

private theorem steps_assess {coh : List Val → Tr R → Prop} {xsv : Val}
    {f : Val → Nat → CM → Option ((R × Val) × Val)}
    (hf : ∀ c i t x, coh [c, xsv.nth i] t → t.choices = some x →
      f c i x = some ((-t.score, t.retval.snd), t.retval.fst)) :
    ∀ (l : TrL R) (xl : CML) (c : Val) (i : Nat) (c' : Val), l.choices = some xl →
      stepsCoh coh xsv c i l.toList c' →
      xl.toList.length = l.toList.length ∧ ∃ rs, forSteps f c i xl.toList = some (rs, c') ∧
        sumR (rs.map (·.1)) = -l.scoreSum ∧ Val.ofList (rs.map (·.2)) = l.outs := by
  intro l
  induction l using TrL.list_induction with
  | nil => intro _ c i c' h hc; cases h; cases hc; exact ⟨rfl, [], rfl, neg_zero.symm, rfl⟩
  | cons k t rest ih =>
    intro _ c i c' h hc
    obtain ⟨x, r, hc1, hr, rfl⟩ := TrL.choices_cons.mp h
    obtain ⟨hlen, rs, hrs, hs, hv⟩ := ih r _ (i + 1) c' hr hc.2
    refine ⟨congrArg (· + 1) hlen, _,
      forSteps_cons.mpr ⟨_, _, rs, hf c i t x hc.1 hc1, hrs, rfl⟩, ?_, ?_⟩
    · simp only [List.map_cons, sumR, hs, TrL.scoreSum, neg_add]
    · simp only [List.map_cons, Val.ofList, hv, TrL.outs]

theorem coh_assess_all :
    (∀ (g : GF) (args : List Val) (t : Tr R), g.Coh P args t →
      ∀ x, t.choices = some x → g.assess P x args = some (-t.score, t.retval)) ∧
    ∀ (b : Body) (env : List Val) (subs : TrL R) (xl : CML) (seen : List String),
      b.Coh P env subs → subs.choices = some xl → (∀ a ∈ b.addrs, a ∉ seen) →
      b.assess P xl env seen = some (-(b.scoreOf subs), b.retOf env subs) := by
  apply GF.rec_both
  case dist =>
    intro d args t h x hx
    cases t with
    | leaf v s => cases hx; cases h; exact congrArg (fun a => some (a, v)) (neg_neg _).symm
    | _ => exact False.elim h
  case fn =>
    intro body ih args t h x hx
    cases t with
    | fn subs r s =>
      obtain ⟨hb, rfl, rfl⟩ := h
      obtain ⟨xl, hxl, rfl⟩ := Option.map_eq_some_iff.mp hx
      exact ih args subs xl [] hb hxl fun _ _ => List.not_mem_nil
    | _ => exact False.elim h
  case vmap =>
    intro g axes n ih args t h x hx
    cases t with
    | vec lanes =>
      obtain ⟨xl, hxl, rfl⟩ := Option.map_eq_some_iff.mp hx
      obtain ⟨hlen, rs, hrs, hs, hv⟩ :=
        lanes_assess (fun i t c hc hch => ih _ t hc c hch) lanes xl 0 hxl h.2
      exact (GF.assess_vmap_iff P).mpr ⟨xl, rfl, hlen.trans h.1, rs, hrs, by rw [hs, hv]; rfl⟩
    | _ => exact False.elim h
  case scan =>
    intro g n ih args t h x hx
    cases t with
    | scan steps c =>
      obtain ⟨xl, hxl, rfl⟩ := Option.map_eq_some_iff.mp hx
      obtain ⟨hlen, rs, hrs, hs, hv⟩ := steps_assess (f := assessStep P g args)
        (fun c i t x hc hch => (assessStep_iff P).mpr ⟨_, ih _ t hc x hch, rfl⟩)
        steps xl _ 0 c hxl h.2
      exact (GF.assess_scan_iff P).mpr
        ⟨xl, rfl, hlen.trans h.1, (rs, c), hrs, by rw [hs, hv]; rfl⟩
    | _ => exact False.elim h
  case cond =>
    intro tg fg iht ihf args t h x hx
    cases t with
    | cond c a b =>
      obtain ⟨hc, ha, hb⟩ := h
      simp only [Tr.choices, Option.bind_eq_bind, Option.bind_eq_some_iff] at hx
      obtain ⟨xa, hxa, xb, hxb, hm⟩ := hx
      have iha := iht _ a ha xa hxa
      have ihb := ihf _ b hb xb hxb
      -- the selected branch returns its own result on the merged map, the other one any
      cases c with
      | true =>
        obtain ⟨he, hs⟩ := CM.mergeCheck_true hm
        obtain ⟨q, h2⟩ := (assess_shape_all P).1 fg xb x _ (args.drop 1) hs ⟨_, ihb⟩
        exact (GF.assess_cond_iff P).mpr
          ⟨_, assess_ext P tg xa x _ _ he iha, q, h2, by rw [← hc]; rfl⟩
      | false =>
        obtain ⟨hs, he⟩ := CM.mergeCheck_false hm
        obtain ⟨p, h1⟩ := (assess_shape_all P).1 tg xa x _ (args.drop 1) hs ⟨_, iha⟩
        exact (GF.assess_cond_iff P).mpr
          ⟨p, h1, _, assess_ext P fg xb x _ _ he ihb, by rw [← hc]; rfl⟩
    | _ => exact False.elim h
  case ret =>
    exact fun e env _ _ _ _ _ _ => congrArg (fun a => some (a, e.eval env)) neg_zero.symm
  case call =>
    intro addr g es rest ihg ihr env subs xl seen h hx hseen
    obtain ⟨hnot, t, hft, hgc, hrc⟩ := h
    obtain ⟨c, hc, hfc⟩ := TrL.choices_find subs xl hx addr t hft
    have h2 := ihr (env ++ [t.retval]) subs xl (addr :: seen) hrc hx
      fun a ha hm => (List.mem_cons.mp hm).elim (fun e => hnot (e ▸ ha))
        (hseen a (List.mem_cons_of_mem _ ha))
    refine (Body.assess_call_iff P).mpr ⟨hseen addr List.mem_cons_self, c, hfc, _,
      ihg _ t hgc c hc, _, h2, ?_⟩
    simp only [Body.scoreOf, Body.retOf, hft, neg_add]

/-- If a coherent trace has a choice map `x` (`get_choices()` does not raise), `assess` accepts `x`
    under the recorded arguments and returns `(-score, retval)`. -/
theorem coh_assess (g : GF) (args : List Val) (t : Tr R) (h : g.Coh P args t)
    (x : CM) (hx : t.choices = some x) : g.assess P x args = some (-t.score, t.retval) :=
  (coh_assess_all P).1 g args t h x hx

theorem coh_assess_body' : (b : Body) →
    ∀ (env : List Val) (subs : TrL R) (xl : CML) (seen : List String),
    b.Coh P env subs → subs.choices = some xl → (∀ a ∈ b.addrs, a ∉ seen) →
    b.assess P xl env seen = some (-(b.scoreOf subs), b.retOf env subs) :=
  (coh_assess_all P).2

end Main

end Genjax

import GenjaxModel.Proofs.DistSpec2
import Mathlib.MeasureTheory.Constructions.Pi
import Mathlib.MeasureTheory.Measure.Prod
/-!
  C13: dirichlet(concentration) — documented density Γ(Σα)/∏Γ(α_i) ∏ x_i^{α_i−1} on the
  probability simplex, total mass one in the chart by the first k−1 coordinates.
  Proof: with `coordFactor a t = t^{a−1}` on `t > 0` (zero elsewhere), the scaled integral
  J_n(α, β, c) = ∫ ∏ coordFactor α_i y_i · coordFactor β (c − Σy) dy
  (the integral of `simplexIntegrand`) equals ∏Γ(α_i) Γ(β) / Γ(Σα+β) · coordFactor (Σα+β) c for
  EVERY real c (`simplex_integral`), by induction on n
  (Fubini on the first coordinate, inner integral by the induction hypothesis at c − t, outer
  integral the convolution `lintegral_coordFactor_conv`, a scaled Beta integral).
-/
open Real MeasureTheory ProbabilityTheory
open scoped ENNReal

namespace Genjax.DistSpec

/-- dirichlet(concentration α) at a point `x` of the probability simplex -/
noncomputable def dirichletPdf {k : ℕ} (α x : Fin k → ℝ) : ℝ :=
  Real.Gamma (∑ i, α i) / (∏ i, Real.Gamma (α i)) * ∏ i, x i ^ (α i - 1)

theorem dirichletPdf_nonneg {k : ℕ} (α x : Fin k → ℝ) (hα : ∀ i, 0 < α i) (hx : ∀ i, 0 ≤ x i) :
    0 ≤ dirichletPdf α x := by
  refine mul_nonneg (div_nonneg ?_ (Finset.prod_nonneg (fun i _ => (Real.Gamma_pos_of_pos (hα i)).le)))
    (Finset.prod_nonneg (fun i _ => Real.rpow_nonneg (hx i) _))
  rcases Nat.eq_zero_or_pos k with hk | hk
  · subst hk
    rw [Finset.univ_eq_empty, Finset.sum_empty, Real.Gamma_zero]
  · have : Nonempty (Fin k) := ⟨⟨0, hk⟩⟩
    exact (Real.Gamma_pos_of_pos (Finset.sum_pos (fun i _ => hα i) Finset.univ_nonempty)).le

/-- two components: dirichlet(a, b) at (t, 1 − t) is beta(concentration1 a, concentration0 b) at t -/
theorem dirichlet_two_eq_beta (a b t : ℝ) (ht : 0 < t ∧ t < 1) :
    dirichletPdf ![a, b] ![t, 1 - t] = betaPdf a b t := by
  simp only [dirichletPdf, betaPdf, if_pos ht, Fin.sum_univ_two, Fin.prod_univ_two,
    Matrix.cons_val_zero, Matrix.cons_val_one, mul_assoc]

/-- one coordinate's factor of the Dirichlet integrand -/
noncomputable def coordFactor (a t : ℝ) : ℝ≥0∞ := if 0 < t then ENNReal.ofReal (t ^ (a - 1)) else 0

theorem coordFactor_of_pos (a : ℝ) {t : ℝ} (ht : 0 < t) :
    coordFactor a t = ENNReal.ofReal (t ^ (a - 1)) := if_pos ht

theorem coordFactor_of_not_pos (a : ℝ) {t : ℝ} (ht : ¬ 0 < t) : coordFactor a t = 0 := if_neg ht

theorem measurable_coordFactor (a : ℝ) : Measurable (coordFactor a) :=
  Measurable.ite (measurableSet_lt measurable_const measurable_id)
    (ENNReal.measurable_ofReal.comp (measurable_id.pow_const _)) measurable_const

theorem coordFactor_ne_top (a t : ℝ) : coordFactor a t ≠ ⊤ := by
  rw [coordFactor]
  split_ifs
  · exact ENNReal.ofReal_ne_top
  · exact ENNReal.zero_ne_top

/-- scaled Beta integral: the factors convolve like the Gamma densities they come from -/
theorem lintegral_coordFactor_conv (a b c : ℝ) (ha : 0 < a) (hb : 0 < b) :
    ∫⁻ t, coordFactor a t * coordFactor b (c - t) =
      ENNReal.ofReal (beta a b) * coordFactor (a + b) c := by
  have hzero : ∀ t : ℝ, ¬ (0 < t ∧ t < c) → coordFactor a t * coordFactor b (c - t) = 0 := by
    intro t h
    by_cases h1 : 0 < t
    · rw [coordFactor_of_not_pos b (fun h2 => h ⟨h1, sub_pos.1 h2⟩), mul_zero]
    · rw [coordFactor_of_not_pos a h1, zero_mul]
  by_cases hc : 0 < c
  · have hB : 0 < beta a b := beta_pos ha hb
    have hK : 0 ≤ c ^ (a - 1) * c ^ (b - 1) * beta a b :=
      mul_nonneg (mul_nonneg (rpow_nonneg hc.le _) (rpow_nonneg hc.le _)) hB.le
    -- the integrand is the beta density in `t / c`, up to the constant
    have hpt : ∀ t : ℝ, coordFactor a t * coordFactor b (c - t) =
        ENNReal.ofReal (c ^ (a - 1) * c ^ (b - 1) * beta a b) * betaPDF a b (t / c) := by
      intro t
      rw [betaPDF_eq]
      simp only [div_pos_iff_of_pos_right hc, div_lt_one hc]
      by_cases h : 0 < t ∧ t < c
      · have h1 := (Real.rpow_pos_of_pos hc (a - 1)).ne'
        have h2 := (Real.rpow_pos_of_pos hc (b - 1)).ne'
        rw [coordFactor_of_pos a h.1, coordFactor_of_pos b (sub_pos.2 h.2), if_pos h,
          ← ENNReal.ofReal_mul (rpow_nonneg h.1.le _), ← ENNReal.ofReal_mul hK,
          Real.div_rpow h.1.le hc.le, one_sub_div hc.ne', Real.div_rpow (sub_nonneg.2 h.2.le) hc.le]
        congr 1
        rw [one_div, mul_assoc (_ * _), ← mul_assoc (beta a b), ← mul_assoc (beta a b),
          mul_inv_cancel₀ hB.ne', one_mul, mul_mul_mul_comm, mul_div_cancel₀ _ h1,
          mul_div_cancel₀ _ h2]
      · rw [hzero t h, if_neg h, ENNReal.ofReal_zero, mul_zero]
    simp only [hpt]
    rw [lintegral_const_mul' _ _ ENNReal.ofReal_ne_top, lintegral_comp_div _ c hc,
      lintegral_betaPDF_eq_one ha hb, mul_one, ← ENNReal.ofReal_mul hK, coordFactor_of_pos _ hc,
      ← ENNReal.ofReal_mul hB.le]
    congr 1
    rw [← Real.rpow_add hc, mul_right_comm, ← Real.rpow_add_one hc.ne', mul_comm]
    congr 2
    ring
  · rw [coordFactor_of_not_pos _ hc, mul_zero]
    simp only [hzero _ (fun h => hc (h.1.trans h.2)), lintegral_zero]

/-- integrand of the (unnormalised, scaled) Dirichlet integral over `{y > 0, Σ y < c}` -/
noncomputable def simplexIntegrand (n : ℕ) (α : Fin n → ℝ) (β c : ℝ) (y : Fin n → ℝ) : ℝ≥0∞ :=
  (∏ i, coordFactor (α i) (y i)) * coordFactor β (c - ∑ i, y i)

theorem measurable_simplexIntegrand (n : ℕ) (α : Fin n → ℝ) (β c : ℝ) :
    Measurable (simplexIntegrand n α β c) :=
  (Finset.measurable_prod _
    (fun i _ => (measurable_coordFactor (α i)).comp (measurable_pi_apply i))).mul
    ((measurable_coordFactor β).comp
      (measurable_const.sub (Finset.measurable_sum _ (fun i _ => measurable_pi_apply i))))

theorem lintegral_fin_succ {n : ℕ} (F : (Fin (n + 1) → ℝ) → ℝ≥0∞) (hF : Measurable F) :
    ∫⁻ y, F y = ∫⁻ t : ℝ, ∫⁻ y' : Fin n → ℝ, F (Fin.cons t y') := by
  have hmp := (volume_preserving_piFinSuccAbove (fun _ : Fin (n + 1) => ℝ) 0).symm
  rw [← hmp.lintegral_comp hF, Measure.volume_eq_prod,
    lintegral_prod (fun a => F ((MeasurableEquiv.piFinSuccAbove (fun _ : Fin (n + 1) => ℝ) 0).symm a))
      (hF.comp hmp.measurable).aemeasurable]
  refine lintegral_congr (fun t => lintegral_congr (fun y' => ?_))
  rw [MeasurableEquiv.piFinSuccAbove_symm_apply, Fin.insertNthEquiv_zero]
  rfl

theorem simplexIntegrand_cons {n : ℕ} (α : Fin (n + 1) → ℝ) (β c t : ℝ) (y' : Fin n → ℝ) :
    simplexIntegrand (n + 1) α β c (Fin.cons t y') =
      coordFactor (α 0) t * simplexIntegrand n (Fin.tail α) β (c - t) y' := by
  simp only [simplexIntegrand, Fin.prod_univ_succ, Fin.sum_univ_succ, Fin.cons_zero, Fin.cons_succ,
    Fin.tail, sub_add_eq_sub_sub, mul_assoc]

/-- J_n(α, β, c) in closed form.  It is stated for every real `c` because the induction on `n`
uses the hypothesis at `c − t`, `t` the first coordinate. -/
theorem simplex_integral : ∀ (n : ℕ) (α : Fin n → ℝ) (β c : ℝ), (∀ i, 0 < α i) → 0 < β →
    ∫⁻ y, simplexIntegrand n α β c y =
      ENNReal.ofReal ((∏ i, Real.Gamma (α i)) * Real.Gamma β / Real.Gamma (∑ i, α i + β)) *
        coordFactor (∑ i, α i + β) c := by
  intro n
  induction n with
  | zero =>
    intro α β c _ hβ
    rw [Measure.volume_pi_eq_dirac, lintegral_dirac, simplexIntegrand]
    simp only [Finset.univ_eq_empty, Finset.prod_empty, Finset.sum_empty, sub_zero, zero_add,
      one_mul, div_self (Real.Gamma_pos_of_pos hβ).ne', ENNReal.ofReal_one]
  | succ n ih =>
    intro α β c hα hβ
    have hA : 0 < ∑ i, Fin.tail α i + β :=
      add_pos_of_nonneg_of_pos (Finset.sum_nonneg (fun i _ => (hα i.succ).le)) hβ
    have hΓ : 0 ≤ (∏ i, Real.Gamma (Fin.tail α i)) * Real.Gamma β /
        Real.Gamma (∑ i, Fin.tail α i + β) :=
      div_nonneg (mul_nonneg (Finset.prod_nonneg (fun i _ => (Real.Gamma_pos_of_pos (hα i.succ)).le))
        (Real.Gamma_pos_of_pos hβ).le) (Real.Gamma_pos_of_pos hA).le
    rw [lintegral_fin_succ _ (measurable_simplexIntegrand (n + 1) α β c)]
    simp only [simplexIntegrand_cons, lintegral_const_mul' _ _ (coordFactor_ne_top _ _),
      ih (Fin.tail α) β _ (fun i => hα i.succ) hβ, mul_left_comm (coordFactor _ _)]
    rw [lintegral_const_mul' _ _ ENNReal.ofReal_ne_top,
      lintegral_coordFactor_conv _ _ c (hα 0) hA, ← mul_assoc, ← ENNReal.ofReal_mul hΓ]
    have e1 : ∑ i, α i + β = α 0 + (∑ i, Fin.tail α i + β) := by
      rw [Fin.sum_univ_succ, add_assoc]; rfl
    have e2 : ∏ i, Real.Gamma (α i) = Real.Gamma (α 0) * ∏ i, Real.Gamma (Fin.tail α i) :=
      Fin.prod_univ_succ _
    rw [e1, e2, beta]
    congr 2
    have hGA := (Real.Gamma_pos_of_pos hA).ne'
    generalize Real.Gamma (∑ i, Fin.tail α i + β) = GA at hGA ⊢
    generalize ∏ i, Real.Gamma (Fin.tail α i) = P
    generalize Real.Gamma (α 0 + _) = G
    generalize Real.Gamma (α 0) = G0
    generalize Real.Gamma β = Gb
    rw [div_mul_div_comm, mul_comm GA G, ← mul_assoc (P * Gb), mul_div_mul_right _ _ hGA,
      mul_comm (P * Gb) G0, ← mul_assoc]

theorem measurableSet_openSimplex (n : ℕ) (c : ℝ) :
    MeasurableSet {y : Fin n → ℝ | (∀ i, 0 < y i) ∧ ∑ i, y i < c} := by
  have h : MeasurableSet {y : Fin n → ℝ | ∀ i, 0 < y i} := by
    rw [Set.ofPred_forall]
    exact MeasurableSet.iInter (fun i => measurableSet_lt measurable_const (measurable_pi_apply i))
  exact h.inter
    (measurableSet_lt (Finset.measurable_sum _ (fun i _ => measurable_pi_apply i)) measurable_const)

/-- total mass one: the simplex `{x ≥ 0, Σ x = 1} ⊆ ℝ^{n+1}` is charted by its first `n`
coordinates `y` (last coordinate `1 − Σ y`) and carries Lebesgue measure in that chart (the
convention of TFP / scipy) -/
theorem dirichlet_normalised {n : ℕ} (α : Fin (n + 1) → ℝ) (hα : ∀ i, 0 < α i) :
    ∫⁻ y in {y : Fin n → ℝ | (∀ i, 0 < y i) ∧ ∑ i, y i < 1},
      ENNReal.ofReal (dirichletPdf α (Fin.snoc y (1 - ∑ i, y i))) = 1 := by
  have hGs : 0 < Real.Gamma (∑ i, α i) :=
    Real.Gamma_pos_of_pos (Finset.sum_pos (fun i _ => hα i) Finset.univ_nonempty)
  have hGp : 0 < ∏ i, Real.Gamma (α i) := Finset.prod_pos (fun i _ => Real.Gamma_pos_of_pos (hα i))
  have hC : 0 ≤ Real.Gamma (∑ i, α i) / ∏ i, Real.Gamma (α i) := (div_pos hGs hGp).le
  -- on the open simplex the density is the constant times the integrand at `c = 1`; off it the
  -- integrand vanishes
  have hpt : ∀ y : Fin n → ℝ,
      Set.indicator {y : Fin n → ℝ | (∀ i, 0 < y i) ∧ ∑ i, y i < 1}
        (fun y => ENNReal.ofReal (dirichletPdf α (Fin.snoc y (1 - ∑ i, y i)))) y =
      ENNReal.ofReal (Real.Gamma (∑ i, α i) / ∏ i, Real.Gamma (α i)) *
        simplexIntegrand n (Fin.init α) (α (Fin.last n)) 1 y := by
    intro y
    rw [simplexIntegrand]
    by_cases hy : (∀ i, 0 < y i) ∧ ∑ i, y i < 1
    · rw [Set.indicator_of_mem (by exact hy), coordFactor_of_pos _ (sub_pos.2 hy.2)]
      simp only [coordFactor_of_pos _ (hy.1 _)]
      rw [← ENNReal.ofReal_prod_of_nonneg (fun i _ => rpow_nonneg (hy.1 i).le _),
        ← ENNReal.ofReal_mul (Finset.prod_nonneg (fun i _ => rpow_nonneg (hy.1 i).le _)),
        ← ENNReal.ofReal_mul hC]
      simp only [dirichletPdf, Fin.prod_univ_castSucc, Fin.snoc_castSucc, Fin.snoc_last, Fin.init]
    · rw [Set.indicator_of_notMem (by exact hy)]
      rcases not_and_or.1 hy with h | h
      · obtain ⟨i, hi⟩ := not_forall.1 h
        rw [Finset.prod_eq_zero (Finset.mem_univ i) (coordFactor_of_not_pos _ hi), zero_mul,
          mul_zero]
      · rw [coordFactor_of_not_pos _ (fun h' => h (sub_pos.1 h')), mul_zero, mul_zero]
  rw [← lintegral_indicator (measurableSet_openSimplex n 1)]
  simp only [hpt]
  rw [lintegral_const_mul' _ _ ENNReal.ofReal_ne_top,
    simplex_integral n (Fin.init α) (α (Fin.last n)) 1 (fun i => hα _) (hα _),
    coordFactor_of_pos _ one_pos]
  simp only [Fin.init]
  rw [← Fin.sum_univ_castSucc α, ← Fin.prod_univ_castSucc (fun i => Real.Gamma (α i)),
    Real.one_rpow, ENNReal.ofReal_one, mul_one, ← ENNReal.ofReal_mul hC,
    div_mul_div_cancel₀ hGp.ne', div_self hGs.ne', ENNReal.ofReal_one]

end Genjax.DistSpec

import GenjaxModel.Proofs.SmcInit
/-!
  C10, the weight formula without side conditions (programs whose Conds are `condOK`): the weight
  `generate` returns is a function of the constraint and of the generated trace's choice map — two
  runs of `generateD g ox args` that end in the same choice map carry the same weight (`genWDet`),
  and so do two runs of a particle's continuation after its proposal (`wDet_afterProposal`).  Hence
  on every run of a particle with a custom proposal
      `w_total · q(z) · fillProb(m, y) = 1{y ⊇ m} · p(y)`
  (`C10_init_proposal_weight_formula_run` in `Props/C10.lean`).
-/
namespace Genjax.Smc
open Genjax Smc.FinDist

section Det
variable {K : Type} [Field K] {R : Type} [AddCommGroup R]
variable (pd : PD K) (P : Prims R) (cfg : Cfg)

def SameCh (b b' : Tr R × K) : Prop := ∃ c, b.1.choices = some c ∧ b'.1.choices = some c

def WDet (d : FinDist K (Option (Tr R × K))) : Prop :=
  ∀ tw tw', some tw ∈ supp d → some tw' ∈ supp d → SameCh tw tw' → tw.2 = tw'.2

omit [AddCommGroup R] in
theorem wDet_failO : WDet (failO : FinDist K (Option (Tr R × K))) :=
  fun _ _ h => nomatch mem_supp_failO h

omit [AddCommGroup R] in
theorem wDet_bindO_pureO {α : Type} (d : FinDist K (Option α)) (f : α → Tr R) (w : α → K)
    (h : ∀ a a', some a ∈ supp d → some a' ∈ supp d →
      ∀ c, (f a).choices = some c → (f a').choices = some c → w a = w a') :
    WDet (bindO d fun a => pureO (f a, w a)) := by
  intro tw tw' ht ht' ⟨c, hc, hc'⟩
  obtain ⟨a, ha, ht⟩ := mem_supp_bindO ht
  cases mem_supp_pureO ht
  obtain ⟨a', ha', ht'⟩ := mem_supp_bindO ht'
  cases mem_supp_pureO ht'
  exact h a a' ha ha' c hc hc'

omit [Field K] [AddCommGroup R] in
theorem lanes_choices_eq {ts ts' : List (Tr R)} {c : CM}
    (h : (TrL.ofList ts).choices.map CM.lanes = some c)
    (h' : (TrL.ofList ts').choices.map CM.lanes = some c) :
    ∃ cs : List CM, ts.map Tr.choices = cs.map some ∧ ts'.map Tr.choices = cs.map some := by
  obtain ⟨l, hl, rfl⟩ := Option.map_eq_some_iff.mp h
  obtain ⟨l', hl', e⟩ := Option.map_eq_some_iff.mp h'
  cases e
  exact ⟨l.toList, ((TrL.choices_ofList_iff _ _).mp hl).2, ((TrL.choices_ofList_iff _ _).mp hl').2⟩

omit [AddCommGroup R] in
theorem forLanesD_weights {α : Type} (f : Nat → α → FinDist K (Option (Tr R × K)))
    (hf : ∀ i a, WDet (f i a)) (i : Nat) (l : List α) (ts ts' : List (Tr R × K)) (cs : List CM)
    (h : some ts ∈ supp (forLanesD f i l)) (h' : some ts' ∈ supp (forLanesD f i l))
    (hc : (ts.map (·.1)).map Tr.choices = cs.map some)
    (hc' : (ts'.map (·.1)).map Tr.choices = cs.map some) : ts.map (·.2) = ts'.map (·.2) := by
  induction l generalizing i ts ts' cs with
  | nil =>
    rw [forLanesD] at h h'
    cases mem_supp_pureO h
    cases mem_supp_pureO h'
    rfl
  | cons a as ih =>
    rw [forLanesD] at h h'
    obtain ⟨b, hb, h⟩ := mem_supp_bindO h
    obtain ⟨bs, hbs, h⟩ := mem_supp_bindO h
    cases mem_supp_pureO h
    obtain ⟨b', hb', h'⟩ := mem_supp_bindO h'
    obtain ⟨bs', hbs', h'⟩ := mem_supp_bindO h'
    cases mem_supp_pureO h'
    cases cs with
    | nil => cases hc
    | cons c cs =>
      simp only [List.map_cons, List.cons.injEq] at hc hc' ⊢
      exact ⟨hf i a b b' hb hb' ⟨c, hc.1, hc'.1⟩, ih (i + 1) bs bs' cs hbs hbs' hc.2 hc'.2⟩

omit [AddCommGroup R] in
/-- the carry too must be a function of the step's choice map -/
theorem forStepsD_weights {α : Type} (f : Val → Nat → α → FinDist K (Option ((Tr R × K) × Val)))
    (hf : ∀ c i a p p', some p ∈ supp (f c i a) → some p' ∈ supp (f c i a) → SameCh p.1 p'.1 →
      p.1.2 = p'.1.2 ∧ p.2 = p'.2)
    (c : Val) (i : Nat) (l : List α) (r r' : List (Tr R × K) × Val) (cs : List CM)
    (h : some r ∈ supp (forStepsD f c i l)) (h' : some r' ∈ supp (forStepsD f c i l))
    (hc : (r.1.map (·.1)).map Tr.choices = cs.map some)
    (hc' : (r'.1.map (·.1)).map Tr.choices = cs.map some) : r.1.map (·.2) = r'.1.map (·.2) := by
  induction l generalizing c i r r' cs with
  | nil =>
    rw [forStepsD] at h h'
    cases mem_supp_pureO h
    cases mem_supp_pureO h'
    rfl
  | cons a as ih =>
    rw [forStepsD] at h h'
    obtain ⟨p, hp, h⟩ := mem_supp_bindO h
    obtain ⟨q, hq, h⟩ := mem_supp_bindO h
    cases mem_supp_pureO h
    obtain ⟨p', hp', h'⟩ := mem_supp_bindO h'
    obtain ⟨q', hq', h'⟩ := mem_supp_bindO h'
    cases mem_supp_pureO h'
    cases cs with
    | nil => cases hc
    | cons c0 cs =>
      simp only [List.map_cons, List.cons.injEq] at hc hc' ⊢
      obtain ⟨hw, hcarry⟩ := hf c i a p p' hp hp' ⟨c0, hc.1, hc'.1⟩
      rw [← hcarry] at hq'
      exact ⟨hw, ih p.2 (i + 1) q q' cs hq hq' hc.2 hc'.2⟩

theorem generateD_retval_of_choices (g : GF) (ox : Option CM) (args : List Val) (tw tw' : Tr R × K)
    (h : some tw ∈ supp (g.generateD pd P cfg ox args))
    (h' : some tw' ∈ supp (g.generateD pd P cfg ox args)) (c : CM) (hc : tw.1.choices = some c)
    (hc' : tw'.1.choices = some c) : tw.1.retval = tw'.1.retval := by
  have h1 := coh_assess P g args tw.1 (generateD_coh_canon pd P cfg g ox args tw h).1 c hc
  rw [coh_assess P g args tw'.1 (generateD_coh_canon pd P cfg g ox args tw' h').1 c hc'] at h1
  exact (Prod.mk.inj (Option.some.inj h1)).2.symm

def GenWDet (g : GF) : Prop :=
  g.condOK = true → ∀ (ox : Option CM) (args : List Val), WDet (g.generateD pd P cfg ox args)

/-- from any two states with the same weight so far -/
def GenWDetBody (b : Body) : Prop :=
  b.condOK = true → ∀ (xs : CML) (env : List Val)
    (subs subs' : TrL R) (s s' : R) (w : K) (r r' : TrL R × Val × R × K),
    some r ∈ supp (b.generateD pd P cfg xs env subs s w) →
    some r' ∈ supp (b.generateD pd P cfg xs env subs' s' w) →
    ∀ yl, r.1.choices = some yl → r'.1.choices = some yl → r.2.2.2 = r'.2.2.2

theorem genWDet_dist (d : Nat) : GenWDet pd P cfg (.dist d) := by
  intro _ ox args
  cases ox with
  | none =>
    intro tw tw' h h' _
    simp only [GF.generateD, supp, List.map_map, List.mem_map, Function.comp,
      Option.some.injEq] at h h'
    obtain ⟨v, _, rfl⟩ := h
    obtain ⟨v', _, rfl⟩ := h'
    rfl
  | some x =>
    cases x <;> simp only [GF.generateD]
    · intro tw tw' h h' _
      cases mem_supp_pureO h
      cases mem_supp_pureO h'
      rfl
    · exact wDet_failO
    · exact wDet_failO

theorem genWDet_fn (body : Body) (ih : GenWDetBody pd P cfg body) :
    GenWDet pd P cfg (.fn body) := by
  intro hc ox args
  cases ox with
  | none =>
    simp only [GF.generateD]
    exact wDet_bindO_pureO _ _ _ fun _ _ _ _ _ _ _ => rfl
  | some x =>
    cases x <;> simp only [GF.generateD]
    · exact wDet_failO
    · refine wDet_bindO_pureO _ _ _ fun r r' hr hr' c hy hy' => ?_
      obtain ⟨yl, hyl, rfl⟩ := Option.map_eq_some_iff.mp hy
      obtain ⟨yl', hyl', e⟩ := Option.map_eq_some_iff.mp hy'
      cases e
      exact ih (by simpa [GF.condOK] using hc) _ args .nil .nil 0 0 1 r r' hr hr' yl hyl hyl'
    · exact wDet_failO

theorem wDet_lanes {α : Type} (g : GF) (ih : GenWDet pd P cfg g) (hg : g.condOK = true)
    (ox : α → Option CM) (argsOf : Nat → List Val) (l : List α) :
    WDet (bindO (forLanesD (fun i a => g.generateD pd P cfg (ox a) (argsOf i)) 0 l)
      fun ts => pureO (.vec (TrL.ofList (ts.map (·.1))), prodK (ts.map (·.2)))) := by
  refine wDet_bindO_pureO _ _ _ fun ts ts' hts hts' c hc hc' => ?_
  obtain ⟨cs, h1, h2⟩ := lanes_choices_eq hc hc'
  rw [forLanesD_weights _ (fun i a => ih hg (ox a) (argsOf i)) 0 l ts ts' cs hts hts' h1 h2]

theorem genWDet_vmap (g : GF) (axes : List Bool) (n : Nat) (ih : GenWDet pd P cfg g) :
    GenWDet pd P cfg (.vmap g axes n) := by
  intro hc ox args
  have hg : g.condOK = true := by simpa [GF.condOK] using hc
  cases ox with
  | none =>
    simp only [GF.generateD]
    split
    · exact wDet_lanes pd P cfg g ih hg (fun _ => none) _ _
    · exact wDet_failO
  | some x =>
    cases x <;> simp only [GF.generateD]
    · exact wDet_failO
    · exact wDet_failO
    · split
      · exact wDet_lanes pd P cfg g ih hg some _ _
      · exact wDet_failO

/-- a step's carry is read off its return value, which its choice map determines -/
theorem wDet_steps {α : Type} (g : GF) (ih : GenWDet pd P cfg g) (hg : g.condOK = true)
    (ox : α → Option CM) (argsOf : Val → Nat → List Val) (c0 : Val) (l : List α) :
    WDet (bindO (forStepsD (fun c i a =>
        bindO (g.generateD pd P cfg (ox a) (argsOf c i)) fun tw => pureO (tw, tw.1.retval.fst))
        c0 0 l)
      fun r => pureO (.scan (TrL.ofList (r.1.map (·.1))) r.2, prodK (r.1.map (·.2)))) := by
  refine wDet_bindO_pureO _ _ _ fun r r' hr hr' c hc hc' => ?_
  obtain ⟨cs, h1, h2⟩ := lanes_choices_eq hc hc'
  rw [forStepsD_weights _ (fun c i a p p' hp hp' hs => ?_) c0 0 l r r' cs hr hr' h1 h2]
  obtain ⟨t, ht, hp⟩ := mem_supp_bindO hp
  cases mem_supp_pureO hp
  obtain ⟨t', ht', hp'⟩ := mem_supp_bindO hp'
  cases mem_supp_pureO hp'
  obtain ⟨y, hy, hy'⟩ := hs
  exact ⟨ih hg _ _ t t' ht ht' ⟨y, hy, hy'⟩,
    congrArg Val.fst (generateD_retval_of_choices pd P cfg g _ _ t t' ht ht' y hy hy')⟩

theorem genWDet_scan (g : GF) (n : Nat) (ih : GenWDet pd P cfg g) :
    GenWDet pd P cfg (.scan g n) := by
  intro hc ox args
  have hg : g.condOK = true := by simpa [GF.condOK] using hc
  cases ox with
  | none =>
    simp only [GF.generateD]
    exact wDet_steps pd P cfg g ih hg (fun _ => none) _ _ _
  | some x =>
    cases x <;> simp only [GF.generateD]
    · exact wDet_failO
    · exact wDet_failO
    · split
      · exact wDet_steps pd P cfg g ih hg some _ _ _
      · exact wDet_failO

theorem cond_choices (t f : GF) (hct : t.condOK = true) (hsk : t.skel = f.skel)
    (ox : Option CM) (args : List Val) (c : Bool) (aw bw : Tr R × K)
    (ha : some aw ∈ supp (t.generateD pd P cfg ox args))
    (hb : some bw ∈ supp (f.generateD pd P cfg ox args)) :
    (Tr.cond c aw.1 bw.1).choices = if c then aw.1.choices else bw.1.choices := by
  obtain ⟨sk, hskt⟩ := Option.isSome_iff_exists.mp (condOK_skel_gf t hct)
  have hsa := generateD_choices_skel pd P cfg t ox args aw ha
  have hsb := generateD_choices_skel pd P cfg f ox args bw hb
  rw [← hsk, hskt] at hsb
  rw [hskt] at hsa
  obtain ⟨ya, hya⟩ := choices_of_skel hsa rfl
  obtain ⟨yb, hyb⟩ := choices_of_skel hsb rfl
  rw [hya] at hsa
  rw [hyb] at hsb
  simp only [Tr.choices, hya, hyb, Option.bind_eq_bind, Option.bind_some,
    CM.mergeCheck_same c ya yb ((Option.some.inj hsa).trans (Option.some.inj hsb).symm)]
  cases c <;> rfl

theorem genWDet_cond (t f : GF) (iht : GenWDet pd P cfg t) (ihf : GenWDet pd P cfg f) :
    GenWDet pd P cfg (.cond t f) := by
  intro hcf ox args
  cases ox with
  | none =>
    simp only [GF.generateD]
    intro tw tw' h h' _
    obtain ⟨a, _, h⟩ := mem_supp_bindO h
    obtain ⟨b, _, h⟩ := mem_supp_bindO h
    cases mem_supp_pureO h
    obtain ⟨a', _, h'⟩ := mem_supp_bindO h'
    obtain ⟨b', _, h'⟩ := mem_supp_bindO h'
    cases mem_supp_pureO h'
    rfl
  | some x =>
    simp only [GF.condOK, Bool.and_eq_true, decide_eq_true_eq] at hcf
    obtain ⟨⟨⟨⟨hct, hcff⟩, hsk⟩, _⟩, _⟩ := hcf
    simp only [GF.generateD]
    intro tw tw' h h' ⟨y, hy, hy'⟩
    obtain ⟨aw, ha, h⟩ := mem_supp_bindO h
    obtain ⟨bw, hb, h⟩ := mem_supp_bindO h
    cases mem_supp_pureO h
    obtain ⟨aw', ha', h'⟩ := mem_supp_bindO h'
    obtain ⟨bw', hb', h'⟩ := mem_supp_bindO h'
    cases mem_supp_pureO h'
    rw [cond_choices pd P cfg t f hct hsk _ _ _ aw bw ha hb] at hy
    rw [cond_choices pd P cfg t f hct hsk _ _ _ aw' bw' ha' hb'] at hy'
    cases hc : (args.getD 0 .nil).truthy with
    | true =>
      rw [hc] at hy hy'
      exact iht hct _ _ aw aw' ha ha' ⟨y, hy, hy'⟩
    | false =>
      rw [hc] at hy hy'
      exact ihf hcff _ _ bw bw' hb hb' ⟨y, hy, hy'⟩

theorem genWDetBody_ret (e : Expr) : GenWDetBody pd P cfg (.ret e) := by
  intro _ xs env subs subs' s s' w r r' h h' _ _ _
  rw [Body.generateD] at h h'
  cases mem_supp_pureO h
  cases mem_supp_pureO h'
  rfl

theorem genWDetBody_call (addr : String) (g : GF) (es : List Expr) (rest : Body)
    (ihg : GenWDet pd P cfg g) (ihr : GenWDetBody pd P cfg rest) :
    GenWDetBody pd P cfg (.call addr g es rest) := by
  intro hcf xs env subs subs' s s' w r r' h h' yl hy hy'
  simp only [Body.condOK, Bool.and_eq_true] at hcf
  simp only [Body.generateD] at h h'
  split at h
  · cases mem_supp_failO h
  · rename_i hn
    split at h'
    · cases mem_supp_failO h'
    · rename_i hn'
      obtain ⟨tw, ht, hrest⟩ := mem_supp_bindO h
      obtain ⟨tw', ht', hrest'⟩ := mem_supp_bindO h'
      -- both final states hold the sub-trace at `addr`, with the same choice map
      have hfind : r.1.find? addr = some tw.1 :=
        (generateD_cc_body pd P cfg rest _ _ _ _ _ _ hrest).1.1 _ _
          (TrL.find?_snoc_self (by simpa using hn))
      have hfind' : r'.1.find? addr = some tw'.1 :=
        (generateD_cc_body pd P cfg rest _ _ _ _ _ _ hrest').1.1 _ _
          (TrL.find?_snoc_self (by simpa using hn'))
      obtain ⟨c, hc, hcy⟩ := TrL.choices_find r.1 yl hy addr tw.1 hfind
      obtain ⟨c', hc', hcy'⟩ := TrL.choices_find r'.1 yl hy' addr tw'.1 hfind'
      cases hcy.symm.trans hcy'
      rw [ihg hcf.1 _ _ tw tw' ht ht' ⟨c, hc, hc'⟩,
        generateD_retval_of_choices pd P cfg g _ _ tw tw' ht ht' c hc hc'] at hrest
      exact ihr hcf.2 xs _ _ _ _ _ _ r r' hrest hrest' yl hy hy'

theorem genWDet_both : (∀ g, GenWDet pd P cfg g) ∧ ∀ b, GenWDetBody pd P cfg b :=
  GF.rec_both (genWDet_dist pd P cfg) (genWDet_fn pd P cfg) (genWDet_vmap pd P cfg)
    (genWDet_scan pd P cfg) (genWDet_cond pd P cfg) (genWDetBody_ret pd P cfg)
    (genWDetBody_call pd P cfg)

theorem genWDet (g : GF) : GenWDet pd P cfg g := (genWDet_both pd P cfg).1 g

theorem genW_det_body : (b : Body) → b.condOK = true → ∀ (xs : CML) (env : List Val)
    (subs subs' : TrL R) (s s' : R) (w : K) (r r' : TrL R × Val × R × K),
    some r ∈ supp (b.generateD pd P cfg xs env subs s w) →
    some r' ∈ supp (b.generateD pd P cfg xs env subs' s' w) →
    ∀ yl, r.1.choices = some yl → r'.1.choices = some yl → r.2.2.2 = r'.2.2.2 :=
  (genWDet_both pd P cfg).2

theorem wDet_afterProposal (cs : Bool) (g : GF) (hc : g.condOK = true) (targs : List Val) (obs : CM)
    (q : GF) (qargs : List Val) (z : CM) :
    WDet (afterProposalD pd P cfg cs g targs obs q qargs z) := by
  unfold afterProposalD
  split
  · exact wDet_bindO_pureO _ _ _ fun tw tw' h h' c hy hy' => by
      rw [genWDet pd P cfg g hc _ _ tw tw' h h' ⟨c, hy, hy'⟩]
  · exact wDet_failO

end Det

end Genjax.Smc

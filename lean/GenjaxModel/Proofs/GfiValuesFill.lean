import GenjaxModel.Proofs.GfiValuesBase
/-!
  With `cfg.condUpdateFill`, `Cond.update` completes the constraint with the visible old choices
  (`_keep_visible` in core.py; `CM.fill vis x`: the constraint wins, recursive on dicts, lane-wise on
  vectorised maps).  Where the constraint has no leaf, the completed constraint shows the old visible
  value, provided constraint and old map have the same kind of node (leaf / dict / vectorised of the
  same length) wherever both reach (`CM.fill_leafAt_none`); a constraint that `update` accepts has
  that property (`update_agree` in GfiValuesUpdate.lean).
-/
namespace Genjax

inductive Kind where
  | leaf
  | node
  | lanes (n : Nat)
  deriving DecidableEq, Repr

def CM.kind : CM → Kind
  | .leaf _ => .leaf
  | .node _ => .node
  | .lanes l => .lanes l.toList.length

mutual
  /-- `none` = the path leaves the map -/
  def CM.kindAt : CM → Path → Option Kind
    | .leaf _, [] => some .leaf
    | .leaf _, _ :: _ => none
    | .node _, [] => some .node
    | .node kids, .key k :: p => kids.kindAtKey k p
    | .node _, .idx _ :: _ => none
    | .lanes kids, [] => some (.lanes kids.toList.length)
    | .lanes kids, .idx i :: p => kids.kindAtIdx i p
    | .lanes _, .key _ :: _ => none
  def CML.kindAtKey : CML → String → Path → Option Kind
    | .nil, _, _ => none
    | .cons k v rest, a, p => if a = k then v.kindAt p else rest.kindAtKey a p
  def CML.kindAtIdx : CML → Nat → Path → Option Kind
    | .nil, _, _ => none
    | .cons _ v _, 0, p => v.kindAt p
    | .cons _ _ rest, i + 1, p => rest.kindAtIdx i p
end

theorem CM.kindAt_nil (x : CM) : x.kindAt [] = some x.kind := by
  cases x <;> simp [CM.kindAt, CM.kind]

theorem CML.kindAtKey_eq (l : CML) (k : String) (p : Path) :
    l.kindAtKey k p = (l.find? k).bind (·.kindAt p) := by
  induction l using CML.list_induction with
  | nil => rfl
  | cons k' v rest ih =>
    simp only [CML.kindAtKey, CML.find?]
    split
    · rfl
    · exact ih

theorem CML.kindAtIdx_eq (l : CML) (i : Nat) (p : Path) :
    l.kindAtIdx i p = (l.toList[i]?).bind (·.kindAt p) := by
  induction l using CML.list_induction generalizing i with
  | nil => rfl
  | cons k' v rest ih =>
    cases i with
    | zero => rfl
    | succ i => exact ih i

theorem CM.kindAt_node_key (l : CML) (k : String) (p : Path) :
    (CM.node l).kindAt (.key k :: p) = (l.find? k).bind (·.kindAt p) :=
  CML.kindAtKey_eq l k p

theorem CM.kindAt_lanes_idx (l : CML) (i : Nat) (p : Path) :
    (CM.lanes l).kindAt (.idx i :: p) = (l.toList[i]?).bind (·.kindAt p) :=
  CML.kindAtIdx_eq l i p

theorem CM.kindAt_cons (x : CM) (s : Seg) (q : Path) :
    x.kindAt (s :: q) = (x.sub s).bind (·.kindAt q) := by
  cases x with
  | leaf _ => rfl
  | node l =>
    cases s with
    | key k => exact CM.kindAt_node_key l k q
    | idx _ => rfl
  | lanes l =>
    cases s with
    | key _ => rfl
    | idx i => exact CM.kindAt_lanes_idx l i q

def AgreeAt (x y : CM) (q : Path) : Prop :=
  ∀ kx ky, x.kindAt q = some kx → y.kindAt q = some ky → kx = ky

theorem agreeAt_nil {x y : CM} : AgreeAt x y [] ↔ x.kind = y.kind := by
  simp only [AgreeAt, CM.kindAt_nil, Option.some.injEq]
  exact ⟨fun h => h _ _ rfl rfl, fun h _ _ hx hy => hx ▸ hy ▸ h⟩

theorem agreeAt_cons {x y : CM} {s : Seg} {q : Path} :
    AgreeAt x y (s :: q) ↔ ∀ x' y', x.sub s = some x' → y.sub s = some y' → AgreeAt x' y' q := by
  simp only [AgreeAt, CM.kindAt_cons, Option.bind_eq_some_iff]
  exact ⟨fun h x' y' hx hy kx ky h1 h2 => h kx ky ⟨x', hx, h1⟩ ⟨y', hy, h2⟩,
    fun h kx ky ⟨x', hx, h1⟩ ⟨y', hy, h2⟩ => h x' y' hx hy kx ky h1 h2⟩

theorem agreeAt_of_sub {x y : CM} (hk : x.kind = y.kind)
    (h : ∀ s x' y', x.sub s = some x' → y.sub s = some y' → ∀ q, AgreeAt x' y' q) :
    ∀ q, AgreeAt x y q
  | [] => agreeAt_nil.mpr hk
  | s :: q => agreeAt_cons.mpr fun x' y' hx hy => h s x' y' hx hy q

/-! ## the merge of a Cond trace's branch maps: kinds -/

def mergeK : Option Kind → Option Kind → Option Kind
  | some k, _ => some k
  | none, o => o

theorem mergeK_none_right (o : Option Kind) : mergeK o none = o := by
  cases o <;> rfl

theorem CML.mergeLanes_length (c : Bool) : (a b m : CML) → CML.mergeLanes c a b = some m →
    m.toList.length = a.toList.length ∧ m.toList.length = b.toList.length := by
  intro a
  induction a using CML.list_induction with
  | nil =>
    intro b m h
    cases b <;> cases h
    exact ⟨rfl, rfl⟩
  | cons k v rest ih =>
    intro b m h
    cases b with
    | nil => cases h
    | cons k' v' rest' =>
      rw [CML.mergeLanes] at h
      obtain ⟨mv, _, h⟩ := Option.bind_eq_some_iff.mp h
      obtain ⟨r, hr, h⟩ := Option.bind_eq_some_iff.mp h
      cases h
      have := ih rest' r hr
      exact ⟨congrArg (· + 1) this.1, congrArg (· + 1) this.2⟩

theorem CM.mergeCheck_kindAt (c : Bool) : (a b m : CM) → CM.mergeCheck c a b = some m →
    ∀ q, m.kindAt q = mergeK (a.kindAt q) (b.kindAt q) := fun a b m h q =>
  CM.mergeCheck_at CM.kindAt mergeK CM.kindAt_cons (fun _ => rfl) mergeK_none_right
    (fun a b m h => by
      rcases CM.mergeCheck_inv h with ⟨va, vb, rfl, rfl, rfl⟩ | ⟨la, lb, lm, rfl, rfl, rfl, _⟩ |
        ⟨la, lb, lm, rfl, rfl, rfl, hl⟩
      · rfl
      · rfl
      · simp only [CM.kindAt, mergeK, (CML.mergeLanes_length c la lb lm hl).1])
    q a b m h

theorem CML.mergeCheck_kindAt (c : Bool) : (a b m : CML) → CML.mergeCheck c a b = some m →
    ∀ k q, m.kindAtKey k q = mergeK (a.kindAtKey k q) (b.kindAtKey k q) := fun a b m h k q =>
  CM.mergeCheck_kindAt c (.node a) (.node b) (.node m) (by rw [CM.mergeCheck, h]; rfl)
    (.key k :: q)

theorem CML.mergeLanes_kindAt (c : Bool) : (a b m : CML) → CML.mergeLanes c a b = some m →
    ∀ i q, m.kindAtIdx i q = mergeK (a.kindAtIdx i q) (b.kindAtIdx i q) := fun a b m h i q =>
  CM.mergeCheck_kindAt c (.lanes a) (.lanes b) (.lanes m) (by rw [CM.mergeCheck, h]; rfl)
    (.idx i :: q)

/-! ## `fill`, one level -/

theorem CML.fill_find : (ys xs : CML) → (k : String) →
    (CML.fill ys xs).find? k =
      match ys.find? k, xs.find? k with
      | some yv, some xv => some (CM.fill yv xv)
      | some yv, none => some yv
      | none, o => o := by
  intro ys
  induction ys using CML.list_induction with
  | nil =>
    intro xs k
    rfl
  | cons k0 v rest ih =>
    intro xs k
    simp only [CML.fill]
    cases hx : xs.find? k0 with
    | some xv =>
      simp only [CML.find?]
      split
      · rename_i hk
        subst hk
        rw [hx]
      · rename_i hk
        rw [ih (xs.erase k0) k, CML.find?_erase_ne xs k0 k hk]
    | none =>
      simp only [CML.find?]
      split
      · rename_i hk
        subst hk
        rw [hx]
      · exact ih xs k

theorem CML.fillLanes_get : (ys xs : CML) → (i : Nat) →
    (CML.fillLanes ys xs).toList[i]? =
      match ys.toList[i]?, xs.toList[i]? with
      | some yv, some xv => some (CM.fill yv xv)
      | _, o => o := by
  intro ys
  induction ys using CML.list_induction with
  | nil =>
    intro xs i
    rfl
  | cons k v rest ih =>
    intro xs i
    cases xs with
    | nil =>
      simp only [CML.fillLanes, CML.toList, List.getElem?_nil]
      split
      · rename_i h; cases h
      · rfl
    | cons k' xv xrest =>
      cases i with
      | zero => rfl
      | succ i => exact ih xrest i

theorem CML.fillLanes_length : (ys xs : CML) →
    (CML.fillLanes ys xs).toList.length = xs.toList.length := by
  intro ys
  induction ys using CML.list_induction with
  | nil =>
    intro xs
    rfl
  | cons k v rest ih =>
    intro xs
    cases xs with
    | nil => rfl
    | cons k' xv xrest => exact congrArg (· + 1) (ih xrest)

theorem CM.fill_kind (y x : CM) : (CM.fill y x).kind = x.kind := by
  cases y <;> cases x <;> simp [CM.fill, CM.kind, CML.fillLanes_length]

theorem CM.fill_sub_some {x xv : CM} {s : Seg} (y : CM) (h : x.sub s = some xv) :
    (CM.fill y x).sub s = some (match y.sub s with | some yv => CM.fill yv xv | none => xv) := by
  cases x <;> cases s <;> simp only [CM.sub, reduceCtorEq] at h
  · cases y <;> simp only [CM.fill, CM.sub, h]
    rw [CML.fill_find, h]
    cases CML.find? _ _ <;> rfl
  · cases y <;> simp only [CM.fill, CM.sub, h]
    rw [CML.fillLanes_get, h]
    cases (CML.toList _)[(_ : Nat)]? <;> rfl

theorem CM.fill_sub_none {x : CM} {s : Seg} (y : CM) (hk : x.kind = y.kind) (h : x.sub s = none) :
    (CM.fill y x).sub s = y.sub s := by
  cases x <;> cases y <;> simp only [CM.kind, reduceCtorEq, Kind.lanes.injEq] at hk <;>
    cases s <;> try rfl
  · simp only [CM.sub] at h
    simp only [CM.fill, CM.sub, CML.fill_find, h]
    cases CML.find? _ _ <;> rfl
  · simp only [CM.sub] at h
    simp only [CM.fill, CM.sub, CML.fillLanes_get, h]
    rw [List.getElem?_eq_none_iff] at h
    rw [List.getElem?_eq_none (hk ▸ h)]

/-! ## `fill`, along a path -/

theorem CM.fill_leafAt_some : ∀ (p : Path) (y x : CM) (v : Val), x.leafAt p = some v →
    (CM.fill y x).leafAt p = some v := by
  intro p
  induction p with
  | nil =>
    intro y x v h
    cases x <;> simp only [CM.leafAt, reduceCtorEq] at h
    cases y <;> exact h
  | cons s p ih =>
    intro y x v h
    rw [CM.leafAt_cons] at h ⊢
    obtain ⟨xv, hxv, hv⟩ := Option.bind_eq_some_iff.mp h
    rw [CM.fill_sub_some y hxv]
    cases y.sub s with
    | none => exact hv
    | some yv => exact ih yv xv v hv

theorem CM.agree_of_fill : ∀ (q : Path) (y x : CM), (∀ q, AgreeAt (CM.fill y x) y q) →
    AgreeAt x y q
  | [], y, x, h => agreeAt_nil.mpr (CM.fill_kind y x ▸ agreeAt_nil.mp (h []))
  | s :: q, y, x, h => agreeAt_cons.mpr fun x' y' hx hy =>
      CM.agree_of_fill q y' x' fun q' =>
        agreeAt_cons.mp (h (s :: q')) (CM.fill y' x') y' (by rw [CM.fill_sub_some y hx, hy]) hy

theorem CM.fill_leafAt_none : ∀ (p : Path) (y x : CM) (v : Val),
    (∀ q, AgreeAt x y q) → x.leafAt p = none → y.leafAt p = some v →
    (CM.fill y x).leafAt p = some v := by
  intro p
  induction p with
  | nil =>
    intro y x v hag hx hy
    have hk := agreeAt_nil.mp (hag [])
    cases y <;> simp only [CM.leafAt, reduceCtorEq] at hy
    cases x <;> simp only [CM.kind, reduceCtorEq] at hk
    cases hx
  | cons s p ih =>
    intro y x v hag hx hy
    rw [CM.leafAt_cons] at hx hy ⊢
    obtain ⟨y', hy', hv⟩ := Option.bind_eq_some_iff.mp hy
    cases hxs : x.sub s with
    | none => rw [CM.fill_sub_none y (agreeAt_nil.mp (hag [])) hxs, hy']; exact hv
    | some x' =>
      rw [CM.fill_sub_some y hxs, hy']
      rw [hxs] at hx
      exact ih y' x' v (fun q => agreeAt_cons.mp (hag (s :: q)) x' y' hxs hy') hx hv

end Genjax

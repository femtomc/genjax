import GenjaxModel.Proofs.GfiGenLawCond
import GenjaxModel.Proofs.GfiGenSim
/-!
  C02 for programs with Cond, the aggregated forms of the pointwise law `genlaw_gf`
  (Proofs/GfiGenLawCond.lean): proper weighting against every test function of the observable trace
  (choice map and return value), `generateD_law_obs`.  Against arbitrary functions of the trace the
  statement is false for Cond: the hidden branch's constrained sites hold the constrained values,
  not draws from the branch's own distribution (`C02_generate_hidden_branch_not_prior` in
  Props/C02.lean).

  A `condOK` program has a static skeleton (`condOK_skel_gf`), so every trace either side can
  produce has a choice map.
-/
namespace Genjax
open Smc Smc.FinDist

section Main
variable {K : Type} [Field K] {R : Type} [AddCommGroup R]
variable (pd : PD K) (P : Prims R) (cfg : Cfg)

theorem generateD_pointwise_cond (hpd : pd.WF) (hnorm : pd.Normalised) (g : GF)
    (hc : g.condOK = true) (hv : g.vmapOK cfg = true) (ox : Option CM) (args : List Val) (y : CM)
    (hs : g.skel = some y.skel) :
    E (g.generateD pd P cfg ox args) (optK fun tw => if tw.1.choices = some y then tw.2 else 0)
      = agO ox y * pmassOf (g.assessP pd y args) := by
  rw [E_weight_choicesAre, genlaw_gf pd P cfg hpd hnorm g hc hv ox args y (fun _ => 1) hs,
    massOf_one]

theorem generateD_law_obs (hpd : pd.WF) (hnorm : pd.Normalised) (g : GF) (hc : g.condOK = true)
    (hv : g.vmapOK cfg = true) (ox : Option CM) (args : List Val) (F : CM → Val → K) :
    E (g.generateD pd P cfg ox args) (optK fun tw => tw.2 * obsF F tw.1)
      = E (g.simD pd P args) (optK fun t => t.agT ox * obsF F t) := by
  have hch : ∀ t : Tr R, t.choices.map CM.skel = g.skel →
      ∃ y, t.choices = some y ∧ g.skel = some y.skel := by
    intro t h
    obtain ⟨y, hy⟩ := choices_of_skel h (condOK_skel_gf g hc)
    rw [hy] at h
    exact ⟨y, hy, h.symm⟩
  refine E_eq_of_fibres _ _ (fun tw : Tr R × K => tw.1.choices) Tr.choices _ _
    (fun y => g.skel = some y.skel)
    (fun tw htw => hch _ (generateD_choices_skel pd P cfg g ox args tw htw))
    (fun t ht => hch _ (simD_choices_skel pd P g args t ht)) fun y hy => ?_
  have hobs : ∀ (c : K) (t : Tr R),
      (if t.choices = some y then c * obsF F t else 0) = c * choicesAre y (F y) t := by
    intro c t
    simp only [choicesAre]
    split
    · rename_i h; rw [obsF_of_choices F h]
    · rw [mul_zero]
  simp only [hobs]
  rw [genlaw_gf pd P cfg hpd hnorm g hc hv ox args y (F y) hy,
    simD_agree_pointwise_cond pd P hpd hnorm g hc ox y args (F y) hy]

/-- E[weight] = marginal likelihood of the constraints -/
theorem generateD_unbiased_cond (hpd : pd.WF) (hnorm : pd.Normalised) (g : GF)
    (hc : g.condOK = true) (hv : g.vmapOK cfg = true) (x : CM) (args : List Val) :
    E (g.generateD pd P cfg (some x) args) (optK fun tw => tw.2)
      = E (g.simD pd P args) (optK fun t => t.agS x) := by
  have hone : ∀ (c : K) (t : Tr R), t.choices.map CM.skel = g.skel →
      c * obsF (fun _ _ => 1) t = c := by
    intro c t h
    obtain ⟨y, hy⟩ := choices_of_skel h (condOK_skel_gf g hc)
    rw [obsF_of_choices _ hy, mul_one]
  refine Eq.trans (E_optK_congr _ _ _ fun tw htw => ?_)
    ((generateD_law_obs pd P cfg hpd hnorm g hc hv (some x) args fun _ _ => 1).trans
      (E_optK_congr _ _ _ fun t ht => hone _ t (simD_choices_skel pd P g args t ht)))
  exact (hone _ tw.1 (generateD_choices_skel pd P cfg g (some x) args tw htw)).symm

/-- E[w] = Σ over the completions `y ⊇ x` of `assessP y` -/
theorem generateD_unbiased_sum_cond (hpd : pd.WF) (hnorm : pd.Normalised) (g : GF)
    (hc : g.condOK = true) (hv : g.vmapOK cfg = true) (x : CM) (args : List Val) (ys : List CM)
    (hnd : ys.Nodup)
    (hcov : ∀ t, some t ∈ supp (g.simD pd P args) → ∃ y ∈ ys, t.choices = some y)
    (hshape : ∀ y ∈ ys, g.skel = some y.skel) :
    E (g.generateD pd P cfg (some x) args) (optK fun tw => tw.2)
      = sumK (ys.map fun y => if y.agreeWith x then pmassOf (g.assessP pd y args) else 0) :=
  (generateD_unbiased_cond pd P cfg hpd hnorm g hc hv x args).trans
    (simD_agree_sum pd P hpd g (lawHyp_of_condOK_gf pd P hnorm g hc) hc x args ys hnd hcov hshape)

end Main

end Genjax

import GenjaxModel.Proofs.GfiRegenAssess
/-!
  Tie of `GF.regenerateD` (Model/GfiRegenDist.lean) to the executable `GF.regenerate`
  (Model/Gfi.lean): when every primitive has the one-point support `[P.draw d a]` and the masses
  are the exponentials of the log densities, `regenerateD` has a single outcome, namely what
  `GF.regenerate` returns (same trace, same discard, or "raises" when it raises), with the weight
  pushed through the exponential (`regenerateD_point`).  Each constructor is an application of
  `IsPoint.bindO_map` (`GfiDistMonad.lean`).
-/
namespace Genjax
open Smc Smc.FinDist

section Tie
variable {K : Type} [Field K] {R : Type} [Zero R] [Add R] [Neg R]
variable (e : R → K) (he0 : e 0 = 1) (hadd : ∀ a b, e (a + b) = e a * e b)
variable (pd : PD K) (P : Prims R) (cfg : Cfg)
variable (hsupp : ∀ d a, pd.support d a = [P.draw d a])
variable (hpm : ∀ d a v, pd.pm d a v = e (P.lp d a v))

def umap (r : Upd R) : UpdK R K := (r.1, e r.2.1, r.2.2)

omit [Field K] [Zero R] [Add R] [Neg R] in
theorem map_umap_fst (rs : List (Upd R)) : (rs.map (umap e)).map (·.1) = rs.map (·.1) := by
  rw [List.map_map]; rfl

omit [Field K] [Zero R] [Add R] [Neg R] in
theorem map_umap_discard (rs : List (Upd R)) : (rs.map (umap e)).map (·.2.2) = rs.map (·.2.2) := by
  rw [List.map_map]; rfl

include he0 hadd in
omit [Neg R] in
theorem prodK_umap (rs : List (Upd R)) :
    prodK ((rs.map (umap e)).map (·.2.1)) = e (sumR (rs.map (·.2.1))) := by
  rw [← prodK_map_exp e he0 hadd, List.map_map, List.map_map]; rfl

abbrev PointGF (g : GF) : Prop := ∀ (t : Tr R) (s : Sel) (args : List Val),
  IsPoint (g.regenerateD e pd P cfg t s args) ((g.regenerate P cfg t s args).map (umap e))

/-- `subs`, `sc`, `d`, `w`: the accumulated new sub-traces, score, discard and log weight (`e w` on
    the distribution side) -/
abbrev PointBody (b : Body) : Prop := ∀ (old : TrL R) (s : Sel) (env : List Val) (subs : TrL R)
  (sc w : R) (d : CML),
  IsPoint (b.regenerateD e pd P cfg old s env subs sc (e w) d)
    ((b.regenerate P cfg old s env subs sc w d).map
      fun r => (r.1, r.2.1, r.2.2.1, e r.2.2.2.1, r.2.2.2.2))

variable {e pd P cfg}

include he0 hadd hsupp hpm in
theorem regenPoint_dist (d : Nat) : PointGF e pd P cfg (.dist d) := by
  intro t s args
  cases t with
  | leaf vOld sOld =>
    unfold GF.regenerateD
    simp only [GF.regenerate]
    split
    · simp only [hsupp, List.map_cons, List.map_nil, Option.map_some, umap, he0]
      exact ⟨_, rfl⟩
    · rw [hpm, ← hadd]
      exact IsPoint.pure _
  | _ => exact IsPoint.pure _

include he0 in
theorem regenPoint_fn {body : Body} (ih : PointBody e pd P cfg body) :
    PointGF e pd P cfg (.fn body) := by
  intro t s args
  cases t with
  | fn old _ _ =>
    have hb := ih old s args .nil 0 0 .nil
    rw [he0] at hb
    exact IsPoint.bindO_map hb fun ⟨_, _, _, _, _⟩ => IsPoint.pure _
  | _ => exact IsPoint.pure _

include he0 hadd in
theorem regenPoint_vmap {g : GF} (axes : List Bool) (n : Nat) (ih : PointGF e pd P cfg g) :
    PointGF e pd P cfg (.vmap g axes n) := by
  intro t s args
  cases t with
  | vec old =>
    by_cases hn : old.toList.length = n
    · unfold GF.regenerateD
      simp only [GF.regenerate, lenIs, hn, if_true, Option.bind_eq_bind, Option.bind_some,
        Option.pure_def]
      exact IsPoint.bindO_map (forLanesD_point_map _ _ _ (fun i t => ih t s _) _ _) fun rs =>
        IsPoint.pureO_eq (by simp only [Option.map_some, umap, map_umap_fst, map_umap_discard,
          prodK_umap e he0 hadd])
    · unfold GF.regenerateD
      simp only [GF.regenerate, lenIs, hn, if_false]
      exact IsPoint.pure _
  | _ => exact IsPoint.pure _

include he0 hadd in
theorem regenPoint_scan {g : GF} (n : Nat) (ih : PointGF e pd P cfg g) :
    PointGF e pd P cfg (.scan g n) := by
  intro t s args
  cases t with
  | scan old c0 =>
    unfold GF.regenerateD
    simp only [GF.regenerate, lenIs]
    cases cfg.scanRegenDefined
    · exact IsPoint.pure _
    · by_cases hn : old.toList.length = n
      · simp only [hn, Bool.not_true, Bool.false_eq_true, if_true, if_false, Option.bind_eq_bind,
          Option.bind_some, Option.pure_def]
        exact IsPoint.bindO_map (forStepsD_point_map _ _ _ (fun c i t =>
          IsPoint.bindO_map (ih t s _) fun ⟨_, _, _⟩ => IsPoint.pure _) _ _ _) fun q =>
          IsPoint.pureO_eq (by simp only [Option.map_some, umap, map_umap_fst, map_umap_discard,
            prodK_umap e he0 hadd])
      · simp only [hn, if_false]
        exact IsPoint.pure _
  | _ => exact IsPoint.pure _

include hadd in
omit [Zero R] [Neg R] in
/-- the weight of `Cond.regenerate`, linear domain vs. log domain -/
theorem cond_weight (c1 c2 : Bool) (w w' x : R) :
    (if c1 = true then (if c2 = true then e w else e w') * e x
      else if c2 = true then e w else e w')
      = e (if c1 = true then (if c2 = true then w else w') + x
        else if c2 = true then w else w') := by
  cases c1 <;> cases c2 <;> simp [hadd]

include hadd in
theorem regenPoint_cond {t f : GF} (iht : PointGF e pd P cfg t) (ihf : PointGF e pd P cfg f) :
    PointGF e pd P cfg (.cond t f) := by
  intro tr s args
  cases tr with
  | cond cOld a b =>
    unfold GF.regenerateD
    simp only [GF.regenerate, Option.bind_eq_bind, Option.pure_def]
    refine IsPoint.bindO_map (iht a s _) fun ⟨a', w, d⟩ =>
      IsPoint.bindO_map (ihf b s _) fun ⟨b', w', d'⟩ => ?_
    simp only [umap, cond_weight hadd]
    cases d <;> cases d' <;> simp only [condRegenDiscard]
    case some.some =>
      generalize (if cfg.condDiscardVisible = true then _ else _ : Option (Option CM)) = o
      cases o <;> exact IsPoint.pure _
    all_goals exact IsPoint.pure _
  | _ => exact IsPoint.pure _

include hadd in
theorem regenPoint_call (addr : String) {g : GF} (es : List Expr) {rest : Body}
    (ihg : PointGF e pd P cfg g) (ihr : PointBody e pd P cfg rest) :
    PointBody e pd P cfg (.call addr g es rest) := by
  intro old s env subs sc w d
  unfold Body.regenerateD
  simp only [Body.regenerate]
  split
  · exact IsPoint.pure _
  · cases old.find? addr with
    | none => exact IsPoint.pure _
    | some sub =>
      refine IsPoint.bindO_map (ihg sub _ _) fun ⟨t, w', dsub⟩ => ?_
      have := ihr old s (env ++ [t.retval]) (subs.snoc addr t) (sc + t.score) (w + w')
        (match dsub with | some c => d.snoc addr c | none => d)
      rwa [hadd] at this

variable (e pd P cfg)
include he0 hadd hsupp hpm

theorem regenPoint_aux : (∀ g, PointGF e pd P cfg g) ∧ ∀ b, PointBody e pd P cfg b :=
  GF.rec_both (regenPoint_dist he0 hadd hsupp hpm) (fun _ => regenPoint_fn he0)
    (fun _ => regenPoint_vmap he0 hadd) (fun _ => regenPoint_scan he0 hadd)
    (fun _ _ => regenPoint_cond hadd) (fun _ _ _ _ _ _ _ _ => IsPoint.pure _)
    (fun addr _ es _ => regenPoint_call hadd addr es)

theorem regenerateD_point (g : GF) (t : Tr R) (s : Sel) (args : List Val) :
    ∃ q, g.regenerateD e pd P cfg t s args
      = [((g.regenerate P cfg t s args).map fun r => (r.1, e r.2.1, r.2.2), q)] :=
  (regenPoint_aux e he0 hadd pd P cfg hsupp hpm).1 g t s args

theorem regen_point_body : (b : Body) → ∀ (old : TrL R) (s : Sel) (env : List Val)
      (subs : TrL R) (sc w : R) (d : CML),
      IsPoint (b.regenerateD e pd P cfg old s env subs sc (e w) d)
        ((b.regenerate P cfg old s env subs sc w d).map
          fun r => (r.1, r.2.1, r.2.2.1, e r.2.2.2.1, r.2.2.2.2)) :=
  (regenPoint_aux e he0 hadd pd P cfg hsupp hpm).2

end Tie

/-- non-vacuity of the hypotheses of the tie: integer log densities, base-2 exponential, a site of
    mass 1/2 -/
example : ∃ (e : ℤ → ℚ) (P : Prims ℤ) (pd : PD ℚ), e 0 = 1 ∧ (∀ a b, e (a + b) = e a * e b) ∧
    (∀ d a, pd.support d a = [P.draw d a]) ∧ (∀ d a v, pd.pm d a v = e (P.lp d a v)) ∧
    e (P.lp 0 [] (.num 1)) = 1 / 2 :=
  ⟨fun n => (2 : ℚ) ^ n, ⟨fun _ _ _ => -1, fun _ _ => .num 0⟩,
    ⟨fun _ _ => [.num 0], fun _ _ _ => (2 : ℚ) ^ (-1 : ℤ)⟩,
    by simp, fun a b => zpow_add₀ (by norm_num) a b, fun _ _ => rfl, fun _ _ _ => rfl, by norm_num⟩

end Genjax

import GenjaxModel.Proofs.GfiAssess
import GenjaxModel.Proofs.GfiRegen
import Mathlib.Algebra.Group.Int.Defs
/-!
  When does a trace have a choice map?

  `coh_assess` needs `t.choices = some x`: `get_choices()` of a Cond trace raises when the two branch
  maps do not merge (a leaf against a dict, vectorised maps of different length).
  * Traces without Cond nodes always have one (`Tr.condFree_choices`), and the operations build
    such traces for Cond-free programs.
  * In general, whether the branch maps merge depends only on the *shape* of the two maps, and for
    the traces the operations build (`GF.Canon`, coherent) the shape is determined by the program
    alone: `GF.skel` is the program's static choice-map skeleton (every leaf value replaced by
    `.nil`); it exists iff at every Cond the skeletons of the two branches merge ("compatible
    branches").  `canon_choices_skel`: the skeleton of the trace's choice map IS the program's
    skeleton, as partial values — so the choice map exists iff the program's skeleton does.
-/
namespace Genjax

/-! ## traces without Cond nodes -/

section TrCF
variable {R : Type}

mutual
  /-- no Cond node anywhere, unreferenced entries included -/
  def Tr.condFree : Tr R → Bool
    | .leaf _ _ => true
    | .fn subs _ _ => subs.condFree
    | .vec lanes => lanes.condFree
    | .scan steps _ => steps.condFree
    | .cond _ _ _ => false
  def TrL.condFree : TrL R → Bool
    | .nil => true
    | .cons _ t rest => t.condFree && rest.condFree
end

theorem condFree_choices_all :
    (∀ t : Tr R, t.condFree = true → ∃ x, t.choices = some x) ∧
    ∀ l : TrL R, l.condFree = true → ∃ x, l.choices = some x := by
  apply Tr.rec_both
  case leaf => exact fun v _ _ => ⟨_, rfl⟩
  case fn =>
    exact fun subs _ _ ih h => let ⟨x, hx⟩ := ih h; ⟨.node x, congrArg (Option.map CM.node) hx⟩
  case vec =>
    exact fun l ih h => let ⟨x, hx⟩ := ih h; ⟨.lanes x, congrArg (Option.map CM.lanes) hx⟩
  case scan =>
    exact fun l _ ih h => let ⟨x, hx⟩ := ih h; ⟨.lanes x, congrArg (Option.map CM.lanes) hx⟩
  case cond => exact fun _ _ _ _ _ h => nomatch h
  case nil => exact fun _ => ⟨_, rfl⟩
  case cons =>
    intro k t rest iht ihr h
    simp only [TrL.condFree, Bool.and_eq_true] at h
    obtain ⟨x, hx⟩ := iht h.1
    obtain ⟨y, hy⟩ := ihr h.2
    exact ⟨_, TrL.choices_cons.mpr ⟨x, y, hx, hy, rfl⟩⟩

theorem Tr.condFree_choices : (t : Tr R) → t.condFree = true → ∃ x, t.choices = some x :=
  condFree_choices_all.1

theorem TrL.condFree_choices : (l : TrL R) → l.condFree = true → ∃ x, l.choices = some x :=
  condFree_choices_all.2

theorem TrL.condFree_ofList (ts : List (Tr R)) (h : ∀ t ∈ ts, t.condFree = true) :
    (TrL.ofList ts).condFree = true := by
  induction ts with
  | nil => rfl
  | cons t ts ih =>
    simp only [TrL.ofList, TrL.condFree, Bool.and_eq_true]
    exact ⟨h t List.mem_cons_self, ih fun t' ht' => h t' (List.mem_cons_of_mem _ ht')⟩

theorem TrL.condFree_append {l m : TrL R} (hl : l.condFree = true) (hm : m.condFree = true) :
    (l.append m).condFree = true := by
  induction l using TrL.list_induction with
  | nil => exact hm
  | cons k t rest ih =>
    simp only [TrL.condFree, Bool.and_eq_true] at hl
    simp only [TrL.append, TrL.condFree, Bool.and_eq_true]
    exact ⟨hl.1, ih hl.2⟩

theorem TrL.condFree_snoc (l : TrL R) (k : String) (t : Tr R)
    (hl : l.condFree = true) (ht : t.condFree = true) : (l.snoc k t).condFree = true := by
  rw [← TrL.append_nil (l.snoc k t), TrL.snoc_append]
  exact TrL.condFree_append hl (Bool.and_eq_true_iff.mpr ⟨ht, rfl⟩)

theorem lanesCanon_condFree {p : Tr R → Prop} (hp : ∀ t, p t → t.condFree = true) :
    ∀ l : TrL R, lanesCanon p l → l.condFree = true := by
  intro l
  induction l using TrL.list_induction with
  | nil => exact fun _ => rfl
  | cons _ t rest ih =>
    intro h
    simp only [TrL.condFree, Bool.and_eq_true]
    exact ⟨hp t h.2.1, ih h.2.2⟩

theorem canon_condFree_all :
    (∀ g : GF, g.condFree = true → ∀ t : Tr R, g.Canon t → t.condFree = true) ∧
    ∀ b : Body, b.condFree = true → ∀ tl : TrL R, b.CanonL tl → tl.condFree = true := by
  apply GF.rec_both
  case dist =>
    intro d _ t h
    cases t with
    | leaf => rfl
    | _ => exact False.elim h
  case fn =>
    intro body ih hg t h
    cases t with
    | fn subs r s => exact ih hg subs h
    | _ => exact False.elim h
  case vmap =>
    intro g axes n ih hg t h
    cases t with
    | vec lanes => exact lanesCanon_condFree (ih hg) lanes h
    | _ => exact False.elim h
  case scan =>
    intro g n ih hg t h
    cases t with
    | scan steps c => exact lanesCanon_condFree (ih hg) steps h
    | _ => exact False.elim h
  case cond => exact fun _ _ _ _ hg => nomatch hg
  case ret =>
    intro e _ tl h
    cases tl with
    | nil => rfl
    | cons => exact False.elim h
  case call =>
    intro addr g es rest ihg ihr hb tl h
    simp only [Body.condFree, Bool.and_eq_true] at hb
    cases tl with
    | nil => exact False.elim h
    | cons k t tl' =>
      simp only [TrL.condFree, Bool.and_eq_true]
      exact ⟨ihg hb.1 t h.2.1, ihr hb.2 tl' h.2.2⟩

theorem BodyCanonInv.condFree {b : Body} {subs subs' : TrL R} (h : BodyCanonInv b subs subs')
    (hb : b.condFree = true) (hs : subs.condFree = true) : subs'.condFree = true := by
  obtain ⟨tl, hc, rfl⟩ := h
  exact TrL.condFree_append hs (canon_condFree_all.2 b hb tl hc)

end TrCF

/-! ## Cond-free programs -/

section CondFree
variable {R : Type} [AddCommGroup R] (P : Prims R) (cfg : Cfg)

theorem simulate_choices_some (g : GF) (hg : g.condFree = true) (args : List Val) (t : Tr R)
    (h : g.simulate P args = some t) : ∃ x, t.choices = some x :=
  Tr.condFree_choices t (canon_condFree_all.1 g hg t (simulate_canon P g args t h))

theorem generate_choices_some (g : GF) (hg : g.condFree = true) (x : Option CM) (args : List Val)
    (t : Tr R) (w : R) (h : g.generate P cfg x args = some (t, w)) : ∃ x', t.choices = some x' :=
  Tr.condFree_choices t (canon_condFree_all.1 g hg t (generate_canon P cfg g x args t w h))

theorem update_choices_some (g : GF) (hg : g.condFree = true) (t : Tr R) (x : Option CM)
    (args : List Val) (t' : Tr R) (w : R) (d : Option CM)
    (h : g.update P cfg t x args = some (t', w, d)) : ∃ x', t'.choices = some x' :=
  Tr.condFree_choices t' (canon_condFree_all.1 g hg t' (update_canon P cfg g t x args t' w d h))

theorem regenerate_choices_some (g : GF) (hg : g.condFree = true) (t : Tr R) (s : Sel)
    (args : List Val) (t' : Tr R) (w : R) (d : Option CM)
    (h : g.regenerate P cfg t s args = some (t', w, d)) : ∃ x', t'.choices = some x' :=
  Tr.condFree_choices t'
    (canon_condFree_all.1 g hg t' (regenerate_canon P cfg g t s args t' w d h))

theorem generate_condFree_body : (b : Body) → b.condFree = true →
    ∀ (x : CML) (env : List Val) (subs : TrL R) (s w : R) (subs' : TrL R) (r : Val) (s' w' : R),
    subs.condFree = true → b.generate P cfg x env subs s w = some (subs', r, s', w') →
    subs'.condFree = true :=
  fun b hb x env subs s w subs' r s' w' hs h =>
    (generate_canon_body P cfg b x env subs s w subs' r s' w' h).condFree hb hs

theorem update_condFree_body : (b : Body) → b.condFree = true →
    ∀ (old : TrL R) (x : CML) (env : List Val) (subs : TrL R) (s w : R) (d : CML)
      (subs' : TrL R) (r : Val) (s' w' : R) (d' : CML),
    subs.condFree = true → b.update P cfg old x env subs s w d = some (subs', r, s', w', d') →
    subs'.condFree = true :=
  fun b hb old x env subs s w d subs' r s' w' d' hs h =>
    (update_canon_body P cfg b old x env subs s w d subs' r s' w' d' h).condFree hb hs

theorem regenerate_condFree_body : (b : Body) → b.condFree = true →
    ∀ (old : TrL R) (sel : Sel) (env : List Val) (subs : TrL R) (s w : R) (d : CML)
      (subs' : TrL R) (r : Val) (s' w' : R) (d' : CML),
    subs.condFree = true →
    b.regenerate P cfg old sel env subs s w d = some (subs', r, s', w', d') →
    subs'.condFree = true :=
  fun b hb old sel env subs s w d subs' r s' w' d' hs h =>
    (regenerate_canon_body P cfg b old sel env subs s w d subs' r s' w' d' h).condFree hb hs

/-
  `coh_assess` without its hypothesis on the trace's choice map,
      g.condFree → g.Coh P args t → ∃ x, t.choices = some x ∧ g.assess P x args = some (-t.score, t.retval),
  is FALSE: `Body.Coh` only constrains the sub-traces that the body looks up by address, so the
  `subs` of a coherent `Fn` trace may hold an unreferenced ("junk") entry, and such an entry can be
  a `Cond` trace whose two branch choice maps do not merge (`CM.mergeCheck` of a leaf and a node
  raises), in which case `t.choices = none`.  See `coh_assess_counterexample` below.
-/

theorem coh_assess_condFree (g : GF) (hg : g.condFree = true) (args : List Val) (t : Tr R)
    (h : g.Coh P args t) (ht : t.condFree = true) :
    ∃ x, t.choices = some x ∧ g.assess P x args = some (-t.score, t.retval) :=
  let ⟨x, hx⟩ := Tr.condFree_choices t ht
  ⟨x, hx, coh_assess P g args t h x hx⟩

/-- a Cond-free program with a coherent trace that has no choice map (junk entry `"junk"` holds a
    Cond trace with unmergeable branches) -/
theorem coh_assess_counterexample :
    ∃ (g : GF) (args : List Val) (t : Tr R), g.condFree = true ∧ g.Coh P args t ∧
      ¬ ∃ x, t.choices = some x ∧ g.assess P x args = some (-t.score, t.retval) :=
  ⟨.fn (.ret (.const 0)), [],
    .fn (.cons "junk" (.cond true (.leaf .nil 0) (.fn .nil .nil 0)) .nil) (.num 0) 0, rfl,
    ⟨trivial, rfl, rfl⟩, fun ⟨_, hx, _⟩ => nomatch hx⟩

end CondFree

/-! ## the static skeleton of a program's choice maps -/

mutual
  def CM.skel : CM → CM
    | .leaf _ => .leaf .nil
    | .node l => .node l.skel
    | .lanes l => .lanes l.skel
  def CML.skel : CML → CML
    | .nil => .nil
    | .cons k v r => .cons k v.skel r.skel
end

/-- `n` lanes of the same skeleton (keys `""` as the operations build them) -/
def skelLanes : Nat → Option CM → Option CML
  | 0, _ => some .nil
  | n + 1, s => do
      let x ← s
      let r ← skelLanes n s
      pure (.cons "" x r)

mutual
  /-- static choice-map skeleton of a program; `none` = some Cond has branches whose choice maps
      cannot be merged (then `get_choices()` raises on every trace of the program that reaches it) -/
  def GF.skel : GF → Option CM
    | .dist _ => some (.leaf .nil)
    | .fn body => body.skel.map .node
    | .vmap g _ n => (skelLanes n g.skel).map .lanes
    | .scan g n => (skelLanes n g.skel).map .lanes
    | .cond t f => do CM.mergeCheck true (← t.skel) (← f.skel)
  def Body.skel : Body → Option CML
    | .ret _ => some .nil
    | .call addr g _ rest => do pure (.cons addr (← g.skel) (← rest.skel))
end

theorem CML.find?_skel : (l : CML) → (k : String) → l.skel.find? k = (l.find? k).map CM.skel := by
  intro l k
  induction l using CML.list_induction with
  | nil => rfl
  | cons k' v r ih =>
    simp only [CML.skel, CML.find?]
    split
    · rfl
    · exact ih

theorem CML.toList_skel : (l : CML) → l.skel.toList = l.toList.map CM.skel
  | .nil => rfl
  | .cons k v r => by simp [CML.skel, CML.toList, CML.toList_skel r]

mutual
  theorem CM.shape_skel : (x : CM) → CM.Shape x x.skel
    | .leaf v => .leaf trivial
    | .node a => CM.Rel.node_iff.mpr (fun k va hk =>
        ⟨va.skel, by rw [CML.find?_skel, hk]; rfl, CML.shape_skel a va (CML.find?_mem a k va hk)⟩)
    | .lanes a => CM.Rel.lanes_iff.mpr (by
        rw [CML.toList_skel]
        exact List.forall₂_map_right_iff.mpr (List.forall₂_same.mpr (CML.shape_skel a)))
  theorem CML.shape_skel : (l : CML) → ∀ v ∈ l.toList, CM.Shape v v.skel
    | .nil, v, h => by simp [CML.toList] at h
    | .cons k v' rest, v, h => by
        simp only [CML.toList, List.mem_cons] at h
        rcases h with h | h
        · rw [h]; exact CM.shape_skel v'
        · exact CML.shape_skel rest v h
end

theorem CML.erase_skel : (l : CML) → (k : String) → (l.erase k).skel = l.skel.erase k := by
  intro l k
  induction l using CML.list_induction with
  | nil => rfl
  | cons k' v r ih =>
    simp only [CML.skel, CML.erase]
    split
    · rfl
    · simp only [CML.skel, ih]

theorem mergeCheck_skel_all (c c' : Bool) :
    (∀ a b : CM, (CM.mergeCheck c a b).map CM.skel = CM.mergeCheck c' a.skel b.skel) ∧
    ∀ a : CML,
      (∀ b, (CML.mergeCheck c a b).map CML.skel = CML.mergeCheck c' a.skel b.skel) ∧
      ∀ b, (CML.mergeLanes c a b).map CML.skel = CML.mergeLanes c' a.skel b.skel := by
  apply CM.rec_both
  case leaf =>
    intro va b
    cases b <;> simp only [CM.mergeCheck, CM.skel, Option.map_some, Option.map_none, ite_self]
  case node =>
    intro a ih b
    cases b <;> simp only [CM.mergeCheck, CM.skel, Option.map_none]
    rw [← ih.1, Option.map_map, Option.map_map]
    rfl
  case lanes =>
    intro a ih b
    cases b <;> simp only [CM.mergeCheck, CM.skel, Option.map_none]
    rw [← ih.2, Option.map_map, Option.map_map]
    rfl
  case nil => exact ⟨fun _ => rfl, fun b => by cases b <;> rfl⟩
  case cons =>
    intro k v rest ihv ihr
    refine ⟨fun b => ?_, fun b => ?_⟩
    · simp only [CML.mergeCheck, CML.skel, CML.find?_skel]
      cases hb : b.find? k with
      | none =>
        simp only [Option.map_none]
        rw [← ihr.1 b]
        cases CML.mergeCheck c rest b <;> rfl
      | some v' =>
        simp only [Option.map_some]
        rw [← ihv v', ← CML.erase_skel, ← ihr.1 (b.erase k)]
        cases CM.mergeCheck c v v' <;> cases CML.mergeCheck c rest (b.erase k) <;> rfl
    · cases b with
      | nil => rfl
      | cons k' v' rest' =>
        simp only [CML.mergeLanes, CML.skel]
        rw [← ihv v', ← ihr.2 rest']
        cases CM.mergeCheck c v v' <;> cases CML.mergeLanes c rest rest' <;> rfl

/-- `c`, `c'` independent: the skeleton of a merge does not depend on the check -/
theorem CM.mergeCheck_skel (c c' : Bool) : (a b : CM) →
    (CM.mergeCheck c a b).map CM.skel = CM.mergeCheck c' a.skel b.skel :=
  (mergeCheck_skel_all c c').1

theorem CML.mergeCheck_skel (c c' : Bool) : (a b : CML) →
    (CML.mergeCheck c a b).map CML.skel = CML.mergeCheck c' a.skel b.skel :=
  fun a => ((mergeCheck_skel_all c c').2 a).1

theorem CML.mergeLanes_skel (c c' : Bool) : (a b : CML) →
    (CML.mergeLanes c a b).map CML.skel = CML.mergeLanes c' a.skel b.skel :=
  fun a => ((mergeCheck_skel_all c c').2 a).2

section Skel
variable {R : Type}

theorem TrL.choices_cons_skel (k : String) (t : Tr R) (rest : TrL R) :
    (TrL.cons k t rest).choices.map CML.skel =
      (t.choices.map CM.skel).bind fun x => (rest.choices.map CML.skel).bind fun r =>
        some (.cons k x r) := by
  cases ht : t.choices <;> cases hr : rest.choices <;> simp only [TrL.choices, ht, hr] <;> rfl

theorem choices_of_skel {t : Tr R} {s : Option CM} (h : t.choices.map CM.skel = s)
    (hs : s.isSome) : ∃ x, t.choices = some x := by
  cases ht : t.choices with
  | none => rw [ht] at h; subst h; cases hs
  | some x => exact ⟨x, rfl⟩

private theorem lanes_choices_skel {p : Tr R → Prop} {s : Option CM} :
    ∀ l : TrL R, lanesCanon p l → (∀ t ∈ l.toList, p t → t.choices.map CM.skel = s) →
      l.choices.map CML.skel = skelLanes l.toList.length s := by
  intro l
  induction l using TrL.list_induction with
  | nil => exact fun _ _ => rfl
  | cons k t rest ih =>
    intro hc h
    obtain ⟨rfl, hp, hc'⟩ := hc
    rw [TrL.choices_cons_skel, h t List.mem_cons_self hp,
      ih hc' fun t' ht' => h t' (List.mem_cons_of_mem _ ht')]
    rfl

variable [Zero R] [Add R] [Neg R] (P : Prims R)

/-- body part: `full` is the whole list of sub-traces, `tl` its part for the remaining call sites
    (the device of `BodyNoneOK`, Proofs/GfiRegen.lean) -/
theorem canon_choices_skel_all :
    (∀ (g : GF) (args : List Val) (t : Tr R),
      g.Canon t → g.Coh P args t → t.choices.map CM.skel = g.skel) ∧
    ∀ (b : Body) (env : List Val) (full tl : TrL R),
      b.CanonL tl → b.Coh P env full → (∀ a ∈ b.addrs, full.find? a = tl.find? a) →
      tl.choices.map CML.skel = b.skel := by
  apply GF.rec_both
  case dist =>
    intro d args t _ h
    cases t with
    | leaf => rfl
    | _ => exact False.elim h
  case fn =>
    intro body ih args t hc h
    cases t with
    | fn subs r s =>
      have := ih args subs subs hc h.1 fun _ _ => rfl
      simp only [Tr.choices, GF.skel, ← this, Option.map_map]
      rfl
    | _ => exact False.elim h
  case vmap =>
    intro g axes n ih args t hc h
    cases t with
    | vec lanes =>
      have := lanes_choices_skel lanes hc fun t ht hp =>
        let ⟨a, ha⟩ := lanesCoh_forall h.2 t ht; ih a t hp ha
      rw [h.1] at this
      simp only [Tr.choices, GF.skel, ← this, Option.map_map]
      rfl
    | _ => exact False.elim h
  case scan =>
    intro g n ih args t hc h
    cases t with
    | scan steps c =>
      have := lanes_choices_skel steps hc fun t ht hp =>
        let ⟨a, ha⟩ := stepsCoh_forall h.2 t ht; ih a t hp ha
      rw [h.1] at this
      simp only [Tr.choices, GF.skel, ← this, Option.map_map]
      rfl
    | _ => exact False.elim h
  case cond =>
    intro tg fg iht ihf args t hc h
    cases t with
    | cond c a b =>
      have h1 := iht _ a hc.1 h.2.1
      have h2 := ihf _ b hc.2 h.2.2
      simp only [Tr.choices, GF.skel, ← h1, ← h2]
      cases a.choices with
      | none => rfl
      | some xa => cases b.choices with
        | none => rfl
        | some xb => exact CM.mergeCheck_skel c true xa xb
    | _ => exact False.elim h
  case ret =>
    intro e env full tl hc _ _
    cases tl with
    | nil => rfl
    | cons => exact False.elim hc
  case call =>
    intro addr g es rest ihg ihr env full tl hc h hf
    cases tl with
    | nil => exact False.elim hc
    | cons k t tl' =>
      obtain ⟨rfl, hgc, hrc⟩ := hc
      obtain ⟨hnot, t', hft, hgh, hrh⟩ := h
      have : full.find? k = some t := by
        rw [hf k List.mem_cons_self]; simp only [TrL.find?, if_true]
      cases hft.symm.trans this
      have h2 := ihr _ full tl' hrc hrh fun a ha => by
        rw [hf a (List.mem_cons_of_mem _ ha)]
        simp only [TrL.find?, if_neg fun e : a = k => hnot (e ▸ ha)]
      rw [TrL.choices_cons_skel, ihg _ t hgc hgh, h2]
      rfl

/-- For a coherent trace in the shape the operations build (`GF.Canon`), the skeleton of the choice
    map is the program's static skeleton — as partial values: `get_choices()` raises exactly when
    the program has no skeleton (some Cond has branches that cannot be merged). -/
theorem canon_choices_skel (g : GF) (args : List Val) (t : Tr R) (hc : g.Canon t)
    (h : g.Coh P args t) : t.choices.map CM.skel = g.skel :=
  (canon_choices_skel_all P).1 g args t hc h

theorem canon_choices_skel_body : (b : Body) → ∀ (env : List Val) (full tl : TrL R),
    b.CanonL tl → b.Coh P env full → (∀ a ∈ b.addrs, full.find? a = tl.find? a) →
    tl.choices.map CML.skel = b.skel :=
  (canon_choices_skel_all P).2

theorem canon_choices_some (g : GF) (args : List Val) (t : Tr R) (hc : g.Canon t)
    (h : g.Coh P args t) (hs : g.skel.isSome) : ∃ x, t.choices = some x :=
  choices_of_skel (canon_choices_skel P g args t hc h) hs

theorem canon_choices_none (g : GF) (args : List Val) (t : Tr R) (hc : g.Canon t)
    (h : g.Coh P args t) (hs : g.skel = none) : t.choices = none := by
  have := canon_choices_skel P g args t hc h
  rw [hs] at this
  exact Option.map_eq_none_iff.mp this

end Skel

/-! ## the traces built by the operations -/

section OpsSkel
variable {R : Type} [AddCommGroup R] (P : Prims R) (cfg : Cfg)

theorem simulate_choices_skel (g : GF) (args : List Val) (t : Tr R)
    (h : g.simulate P args = some t) : t.choices.map CM.skel = g.skel :=
  canon_choices_skel P g args t (simulate_canon P g args t h) (simulate_coh P g args t h)

theorem generate_choices_skel (g : GF) (x : Option CM) (args : List Val) (t : Tr R) (w : R)
    (h : g.generate P cfg x args = some (t, w)) : t.choices.map CM.skel = g.skel :=
  canon_choices_skel P g args t (generate_canon P cfg g x args t w h)
    (generate_coh P cfg g x args t w h)

theorem update_choices_skel (g : GF) (t : Tr R) (x : Option CM) (args : List Val) (t' : Tr R)
    (w : R) (d : Option CM) (h : g.update P cfg t x args = some (t', w, d)) :
    t'.choices.map CM.skel = g.skel :=
  canon_choices_skel P g args t' (update_canon P cfg g t x args t' w d h)
    (update_coh P cfg g t x args t' w d h)

theorem regenerate_choices_skel (g : GF) (t : Tr R) (s : Sel) (args : List Val) (t' : Tr R)
    (w : R) (d : Option CM) (h : g.regenerate P cfg t s args = some (t', w, d)) :
    t'.choices.map CM.skel = g.skel :=
  canon_choices_skel P g args t' (regenerate_canon P cfg g t s args t' w d h)
    (regenerate_coh P cfg g t s args t' w d h)

theorem history_choices_skel (g : GF) (t : Tr R) (a : List Val) (hc : g.Canon t)
    (ht : g.Coh P a t) (ops : List Op) (t' : Tr R) (a' : List Val)
    (h : applyOps P cfg g t a ops = some (t', a')) : t'.choices.map CM.skel = g.skel :=
  canon_choices_skel P g a' t' (history_canon P cfg g t a hc ops t' a' h)
    (history_coh P cfg g t a ht ops t' a' h)

end OpsSkel

/-! ## a concrete instance for the non-vacuity examples in Props -/

def condExP : Prims ℤ where
  lp := fun d _ v => (d : ℤ) + 2 * v.toRat.num
  draw := fun d _ => .num ((d + 3 : Nat) : Rat)

/-- `cond(check, fn: x ~ d1(a); return x, fn: x ~ d2(); y ~ d5(x); return x + y)`:
    two Fn branches sharing the address `"x"` -/
def condExG : GF :=
  .cond (.fn (.call "x" (.dist 1) [.var 0] (.ret (.var 1))))
        (.fn (.call "x" (.dist 2) [] (.call "y" (.dist 5) [.var 1] (.ret (.add (.var 1) (.var 2))))))

/-- a scan step `cond(carry, …, …)`: the carry returned by one branch selects the other branch
    at the next step -/
def condExStep : GF :=
  .cond (.fn (.call "x" (.dist 1) [.var 0] (.ret (.pair (.const 0) (.var 1)))))
        (.fn (.call "x" (.dist 2) [] (.call "y" (.dist 5) [.var 1]
          (.ret (.pair (.const 1) (.add (.var 1) (.var 2)))))))

/-- Cond at depth: a Fn calling a Scan of a Cond and a Vmap of a Cond of a Cond -/
def condExDeep : GF :=
  .fn (.call "s" (.scan condExStep 3) [.const 1, .var 0]
      (.call "v" (.vmap (.cond condExG (.fn (.call "x" (.dist 3) [] (.ret (.var 1)))))
            [true, false, false] 2)
          [.var 1, .const 1, .sumv (.var 2)]
        (.ret (.var 3))))

def condExDeepArgs : List Val := [Val.ofList [.num 7, .num 8, .num 9], Val.ofList [.num 0, .num 1]]

/-- executable form of "simulate succeeds, the trace has a choice map, and `assess` on it returns
    `(-score, retval)`" (so that large instances can be checked by kernel evaluation) -/
def simulateAssessCheck (P : Prims ℤ) (g : GF) (args : List Val) : Bool :=
  match g.simulate P args with
  | some t =>
    match t.choices with
    | some x => decide (g.assess P x args = some (-t.score, t.retval))
    | none => false
  | none => false

theorem simulateAssessCheck_iff (P : Prims ℤ) (g : GF) (args : List Val) :
    simulateAssessCheck P g args = true ↔
      ∃ t x, g.simulate P args = some t ∧ t.choices = some x ∧
        g.assess P x args = some (-t.score, t.retval) := by
  unfold simulateAssessCheck
  split
  · rename_i t ht
    split
    · rename_i x hx
      exact ⟨fun h => ⟨t, x, ht, hx, of_decide_eq_true h⟩, fun ⟨_, _, ht', hx', h⟩ => by
        cases ht.symm.trans ht'; cases hx.symm.trans hx'; exact decide_eq_true h⟩
    · rename_i hx
      exact ⟨fun h => (nomatch h), fun ⟨_, _, ht', hx', _⟩ => by
        cases ht.symm.trans ht'; cases hx.symm.trans hx'⟩
  · rename_i ht
    exact ⟨fun h => (nomatch h), fun ⟨_, _, ht', _⟩ => nomatch ht.symm.trans ht'⟩

end Genjax

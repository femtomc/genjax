import GenjaxModel.Model.State
import Mathlib.Data.List.Forall2
/-!
  Lemmas about `Model/State.lean` for `Props/C19.lean`: the look-up `Store.get?` in which the C19
  theorems are stated, reading a store after a write (`get_set`), `mapM` in `Option`, and the run of
  a scan whose body is one named save.
-/
namespace Genjax.State

def Store.get? (s : Store) (p : Path) : Option SV := (s.find? fun e => e.1 == p).map (·.2)

theorem isPrefix_refl (p : Path) : isPrefix p p = true := by
  induction p with
  | nil => rfl
  | cons a as ih => exact (Bool.and_eq_true _ _).mpr ⟨beq_self_eq_true a, ih⟩

theorem beq_false_of_isPrefix_false {p q : Path} (h : isPrefix p q = false) : (p == q) = false :=
  Bool.eq_false_iff.mpr fun hb => by rw [eq_of_beq hb, isPrefix_refl] at h; cases h

theorem get_set (s : Store) (p q : Path) (v : SV) :
    (s.set p v).get? q = if p == q then some v else if isPrefix p q then none else s.get? q := by
  rw [Store.get?, Store.set, List.find?_append, List.find?_filter, List.find?_singleton, Store.get?]
  cases h : isPrefix p q
  · -- nothing at `q` is filtered out, and `p ≠ q`
    have hf : (fun e : Path × SV => decide ((!isPrefix p e.1) = true ∧ (e.1 == q) = true))
        = fun e => e.1 == q := funext fun e => by
      by_cases he : e.1 = q
      · rw [he, h]; simp
      · rw [beq_false_of_ne he]; simp
    rw [hf, beq_false_of_isPrefix_false h]
    exact congrArg _ Option.or_none
  · -- every entry at `q` is filtered out
    have hf : s.find? (fun e => decide ((!isPrefix p e.1) = true ∧ (e.1 == q) = true)) = none :=
      List.find?_eq_none.mpr fun e _ he => by
        rw [decide_eq_true_eq, beq_iff_eq] at he
        rw [he.2, h] at he
        exact Bool.false_ne_true he.1
    rw [hf, Option.none_or]
    cases p == q <;> rfl

/-! ### `mapM` in `Option` -/

theorem mapM_option_map {α β γ : Type} (f : α → Option β) (g : β → γ) (l : List α) :
    l.mapM (fun a => (f a).map g) = (l.mapM f).map (List.map g) := by
  induction l with
  | nil => rfl
  | cons a l ih =>
    rw [List.mapM_cons, List.mapM_cons, ih]
    cases f a <;> cases l.mapM f <;> rfl

theorem mapM_eq_some {α β : Type} {f : α → Option β} {l : List α} {r : List β}
    (h : l.mapM f = some r) : List.Forall₂ (fun a b => f a = some b) l r := by
  induction l generalizing r with
  | nil => cases h; exact .nil
  | cons a l ih =>
    rw [List.mapM_cons] at h
    cases hb : f a with
    | none => rw [hb] at h; cases h
    | some b =>
      cases hbs : l.mapM f with
      | none => rw [hb, hbs] at h; cases h
      | some bs => rw [hb, hbs] at h; cases h; exact .cons hb (ih hbs)

theorem mapM_forall2 {α β γ : Type} {R : β → γ → Prop} (f : α → Option β) (g : α → Option γ)
    (l : List α) (h : ∀ a ∈ l, ∃ b c, f a = some b ∧ g a = some c ∧ R b c) :
    ∃ bs cs, l.mapM f = some bs ∧ l.mapM g = some cs ∧ List.Forall₂ R bs cs := by
  induction l with
  | nil => exact ⟨[], [], rfl, rfl, .nil⟩
  | cons a l ih =>
    obtain ⟨b, c, hb, hc, hr⟩ := h a List.mem_cons_self
    obtain ⟨bs, cs, hbs, hcs, hrs⟩ := ih fun a' ha' => h a' (List.mem_cons_of_mem _ ha')
    refine ⟨b :: bs, c :: cs, ?_, ?_, .cons hr hrs⟩
    · rw [List.mapM_cons, hb, hbs]; rfl
    · rw [List.mapM_cons, hc, hcs]; rfl

theorem forall2_right {α β : Type} {R : α → β → Prop} {P : β → Prop} {l1 : List α} {l2 : List β}
    (h : List.Forall₂ R l1 l2) (hP : ∀ a b, R a b → P b) : ∀ b ∈ l2, P b := by
  induction h with
  | nil => exact fun b hb => nomatch hb
  | cons hab _ ih =>
    intro b hb
    rcases List.mem_cons.mp hb with rfl | hb
    · exact hP _ _ hab
    · exact ih b hb

/-! ### a scan whose body is one named save -/

theorem stackStores_single {α : Type} (p : Path) (f : α → SV) (l : List α) (hl : l ≠ []) :
    stackStores (l.map fun a => [(p, f a)]) = [(p, SV.stack (l.map f))] := by
  cases l with
  | nil => exact absurd rfl hl
  | cons a l =>
    have hget : (fun s : Store => ((s.find? fun e' => e'.1 == p).map (·.2)).getD (SV.stack []))
        ∘ (fun a => [(p, f a)]) = f := funext fun a => by
      rw [Function.comp_apply, List.find?_cons, beq_self_eq_true]; rfl
    exact congrArg (fun vs => [(p, SV.stack vs)]) ((List.map_map ..).trans (congrArg (List.map · _) hget))

theorem exec_scan_tag (cfg : Cfg) (name : String) (id n : Nat) (hn : 0 < n) (st : St) :
    (SP.scan (.cons (.tag name id) .nil) n).exec cfg [] [] st =
      some (mergeScan cfg st [([name], SV.stack ((List.range n).map fun i => SV.atom id [i]))]) := by
  have hne : List.range n ≠ [] := mt List.range_eq_nil.mp (Nat.ne_of_gt hn)
  show Option.bind ((List.range n).mapM fun i => pure [([name], SV.atom id [i])]) _ = _
  rw [List.mapM_pure, ← stackStores_single [name] (fun i => SV.atom id [i]) _ hne]
  rfl

end Genjax.State

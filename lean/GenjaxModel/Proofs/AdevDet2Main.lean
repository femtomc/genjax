import GenjaxModel.Proofs.AdevDet2
/-!
  C15, richer language: `call` and `fori` equations are lawful primitives; the CPS interpreter
  computes its direct-style twin; the interpreter with the correct fast-path condition is the
  reference forward mode (`runAProg_toRD`); discrete values never carry a tangent; trip counts add.
-/
set_option linter.unusedSectionVars false
namespace Genjax.Adev2
variable {K : Type} [Field K] [LinearOrder K] {P : Type}

/-! ### `call` and `fori` as lawful primitives, and their reference steps -/

theorem zipWith_ofVT_p (vs : List (Val K)) (ts : List (Tan K)) (h : ts.length = vs.length) :
    (List.zipWith RD.ofVT vs ts).map RD.p = vs :=
  map_zipWith_left RD.ofVT RD.p (fun _ _ => rfl) vs ts h

theorem zipWith_ofVT_tan (vs : List (Val K)) (ts : List (Tan K)) :
    List.zipWith RD.ofVT vs (ts.map fun t => Tan.tan t.mat) = List.zipWith RD.ofVT vs ts :=
  List.zipWith_map_right ..

theorem zipWith_ofVT_zero (vs : List (Val K)) (ts : List (Tan K)) (h : ∀ t ∈ ts, Tan.mat t = 0) :
    ∀ x ∈ List.zipWith RD.ofVT vs ts, x.d = 0 :=
  forall_mem_zipWith fun x hx => h x.2 (List.of_mem_zip (a := x.1) (b := x.2) hx).2

theorem zipWith_ofVT_args (args : List (RD K)) :
    List.zipWith RD.ofVT (args.map RD.p) (args.map fun a => Tan.tan a.d) = args := by
  rw [List.zipWith_map]
  exact (List.zipWith_self ..).trans (List.map_id' _)

theorem tanOut_mat_zero (r : List (RD K)) (h : ∀ x ∈ r, x.d = 0) : ∀ t ∈ r.map RD.tanOut, Tan.mat t = 0 :=
  List.forall_mem_map.mpr fun x hx => by
    unfold RD.tanOut
    split
    · rfl
    · exact h x hx

theorem tanOut_disZero (r : List (RD K)) :
    ∀ x ∈ List.zip (r.map RD.p) (r.map RD.tanOut), x.1.isDis = true → x.2 = Tan.zero := by
  rw [List.zip_map']
  exact List.forall_mem_map.mpr fun y _ hd => if_pos hd

/-- re-packing what JAX's forward mode of a sub-jaxpr returns loses nothing, as long as its discrete
    outputs have tangent 0 -/
theorem pack_tanOut (r : List (RD K)) (h : WFJ r) :
    List.zipWith (fun v t => (⟨v, Tan.mat t⟩ : RD K)) (r.map RD.p) (r.map RD.tanOut) = r := by
  rw [List.zipWith_map, List.zipWith_self]
  refine (List.map_congr_left fun x hx => ?_).trans (List.map_id' _)
  unfold RD.tanOut
  split
  · rename_i hd
    exact congrArg (RD.mk x.p) (h x hx hd).symm
  · rfl

/-- a sub-jaxpr as ONE primitive for the interpreter - value `evP`, JVP rule = JAX's forward mode
    `evJ` of it, outputs re-packed (the shape of `callPrim` and `loopPrim`) - is lawful -/
theorem subPrim_lawful (evP : List (Val K) → List (Val K)) (evJ : List (RD K) → List (RD K))
    (hprimal : ∀ args, (evJ args).map RD.p = evP (args.map RD.p))
    (hzero : ∀ args, (∀ x ∈ args, x.d = 0) → ∀ x ∈ evJ args, x.d = 0) :
    Prim.Lawful ⟨evP, fun vs ts => ((evJ (List.zipWith RD.ofVT vs ts)).map RD.p,
      (evJ (List.zipWith RD.ofVT vs ts)).map RD.tanOut)⟩ := by
  have hp : ∀ vs ts, ts.length = vs.length → (evJ (List.zipWith RD.ofVT vs ts)).map RD.p = evP vs :=
    fun vs ts h => (hprimal _).trans (congrArg evP (zipWith_ofVT_p vs ts h))
  exact {
    primal := hp
    len := fun vs ts h => (List.length_map _).trans
      ((List.length_map _).symm.trans (congrArg List.length (hp vs ts h)))
    zeroOk := fun vs ts _ => by simp only [zipWith_ofVT_tan]
    zeroLin := fun vs ts _ hz => tanOut_mat_zero _ (hzero _ (zipWith_ofVT_zero vs ts hz))
    disZero := fun vs ts h => by
      have := tanOut_disZero (evJ (List.zipWith RD.ofVT vs ts))
      rwa [hp vs ts h] at this }

/-- … and its reference step is that forward mode, as long as discrete outputs have tangent 0 -/
theorem stepJ_subPrim (evP : List (Val K) → List (Val K)) (evJ : List (RD K) → List (RD K))
    (args : List (RD K)) (h : WFJ (evJ args)) :
    stepJ ⟨evP, fun vs ts => ((evJ (List.zipWith RD.ofVT vs ts)).map RD.p,
      (evJ (List.zipWith RD.ofVT vs ts)).map RD.tanOut)⟩ args = evJ args := by
  simp only [stepJ, zipWith_ofVT_args]
  exact pack_tanOut _ h

theorem callPrim_lawful (sem : P → Prim K) (hl : ∀ p, (sem p).Lawful) (body : Prog P) (outs : List Nat) :
    (callPrim sem body outs).Lawful :=
  subPrim_lawful _ (fun args => gather (evalJProg sem body args) outs)
    (fun args => (gather_map (RD.p (K := K)) rfl _ outs).trans
      (congrArg (gather · outs) (evalJProg_primal sem hl body args)))
    (fun args h => gather_all (fun x : RD K => x.d = 0) rfl _ (evalJProg_zero sem hl body args h) outs)

theorem loopPrim_lawful (sem : P → Prim K) (hl : ∀ p, (sem p).Lawful) (n nc : Nat) (body : Prog P)
    (outs : List Nat) : (loopPrim sem n nc body outs).Lawful :=
  subPrim_lawful _
    (fun args => iter n (fun c => gather (evalJProg sem body (args.take nc ++ c)) outs) (args.drop nc))
    (fun _ => (loop_map RD.p rfl _ _ (evalJProg_primal sem hl body) outs n _ _).trans
      (by rw [List.map_take, List.map_drop]))
    (fun _ h => loop_all (fun x : RD K => x.d = 0) rfl _ (evalJProg_zero sem hl body) outs n _ _
      (fun x hx => h x (List.mem_of_mem_take hx)) (fun x hx => h x (List.mem_of_mem_drop hx)))

theorem stepJ_callPrim (sem : P → Prim K) (hl : ∀ p, (sem p).Lawful) (body : Prog P) (outs : List Nat)
    (args : List (RD K)) (h : WFJ args) :
    stepJ (callPrim sem body outs) args = gather (evalJProg sem body args) outs :=
  stepJ_subPrim _ (fun args => gather (evalJProg sem body args) outs) args
    ((evalJProg_wf sem hl body args h).gather outs)

theorem stepJ_loopPrim (sem : P → Prim K) (hl : ∀ p, (sem p).Lawful) (n : Nat) (body : Prog P) (outs : List Nat)
    (cs c : List (RD K)) (hcs : WFJ cs) (hc : WFJ c) :
    stepJ (loopPrim sem n cs.length body outs) (cs ++ c) =
      iter n (fun c => gather (evalJProg sem body (cs ++ c)) outs) c := by
  have := stepJ_subPrim (loopPrim sem n cs.length body outs).val
    (fun args => iter n (fun c => gather (evalJProg sem body (args.take cs.length ++ c)) outs)
      (args.drop cs.length)) (cs ++ c)
  simp only [List.take_left', List.drop_left'] at this
  exact this (loop_all (fun x : RD K => x.p.isDis = true → x.d = 0) (fun _ => rfl) _
    (evalJProg_wf sem hl body) outs n cs c hcs hc)

/-! ### continuation-passing style = direct style -/

theorem evalAEqn_cond {R : Type} (cfg : Cfg) (sem : P → Prim K) (kont : List (DV K) → R) (c : Nat)
    (ins : List Nat) (thn : Prog P) (thnOut : Nat) (els : Prog P) (elsOut : Nat) (env : List (DV K)) :
    evalAEqn cfg sem kont (.cond c ins thn thnOut els elsOut) env =
      if truthy (env.getD c default).p then
        evalAProg cfg sem (fun env' => kont [env'.getD thnOut default]) thn (gather env ins)
      else
        evalAProg cfg sem (fun env' => kont [env'.getD elsOut default]) els (gather env ins) := rfl

theorem runAEqn_cond (cfg : Cfg) (sem : P → Prim K) (c : Nat) (ins : List Nat) (thn : Prog P)
    (thnOut : Nat) (els : Prog P) (elsOut : Nat) (env : List (DV K)) :
    runAEqn cfg sem (.cond c ins thn thnOut els elsOut) env =
      if truthy (env.getD c default).p then [(runAProg cfg sem thn (gather env ins)).getD thnOut default]
      else [(runAProg cfg sem els (gather env ins)).getD elsOut default] := rfl

mutual
theorem evalAProg_eq (cfg : Cfg) (sem : P → Prim K) :
    ∀ (p : Prog P) {R : Type} (kont : List (DV K) → R) (env : List (DV K)),
      evalAProg cfg sem kont p env = kont (runAProg cfg sem p env)
  | .nil, _, _, _ => rfl
  | .cons e rest, _, kont, env =>
      (evalAEqn_eq cfg sem e _ env).trans (evalAProg_eq cfg sem rest kont _)
theorem evalAEqn_eq (cfg : Cfg) (sem : P → Prim K) :
    ∀ (e : Eqn P) {R : Type} (kont : List (DV K) → R) (env : List (DV K)),
      evalAEqn cfg sem kont e env = kont (runAEqn cfg sem e env)
  | .prim _ _, _, _, _ => rfl
  | .call _ _ _, _, _, _ => rfl
  | .fori _ _ _ _ _, _, _, _ => rfl
  | .cond c ins thn thnOut els elsOut, _, kont, env => by
      rw [evalAEqn_cond, runAEqn_cond]
      split <;> exact evalAProg_eq cfg sem _ _ _
end

/-! ### the interpreter is forward-mode AD -/

mutual
/-- ADEV = forward-mode AD, direct style: the interpreter's environment, reading a symbolic zero
    as 0, is the environment of the reference forward mode -/
theorem runAProg_toRD (cfg : Cfg) (hc : cfg.Good) (sem : P → Prim K) (hl : ∀ p, (sem p).Lawful) :
    ∀ (p : Prog P) (env : List (DV K)), WFJ (env.map DV.toRD) →
      (runAProg cfg sem p env).map DV.toRD = evalJProg sem p (env.map DV.toRD)
  | .nil, _, _ => rfl
  | .cons e rest, env, h => by
      have he := runAEqn_toRD cfg hc sem hl e env h
      have hr := runAProg_toRD cfg hc sem hl rest (env ++ runAEqn cfg sem e env)
      rw [List.map_append, he] at hr
      exact hr (List.forall_mem_append.mpr ⟨h, evalJEqn_wf sem hl e _ h⟩)
theorem runAEqn_toRD (cfg : Cfg) (hc : cfg.Good) (sem : P → Prim K) (hl : ∀ p, (sem p).Lawful) :
    ∀ (e : Eqn P) (env : List (DV K)), WFJ (env.map DV.toRD) →
      (runAEqn cfg sem e env).map DV.toRD = evalJEqn sem e (env.map DV.toRD)
  | .prim p ins, env, _ =>
      (stepA_toRD cfg hc _ (hl p) _).trans
        (congrArg (stepJ (sem p)) (gather_map DV.toRD toRD_default env ins))
  | .call ins body outs, env, h => by
      refine (stepA_toRD cfg hc _ (callPrim_lawful sem hl body outs) _).trans ?_
      rw [gather_map DV.toRD toRD_default]
      exact stepJ_callPrim sem hl body outs _ (h.gather ins)
  | .fori n consts ins body outs, env, h => by
      refine (stepA_toRD cfg hc _ (loopPrim_lawful sem hl n _ body outs) _).trans ?_
      rw [gather_map DV.toRD toRD_default, gather_append, ← gather_length (env.map DV.toRD) consts]
      exact stepJ_loopPrim sem hl n body outs _ _ (h.gather consts) (h.gather ins)
  | .cond c ins thn thnOut els elsOut, env, h => by
      have hg : WFJ ((gather env ins).map DV.toRD) := by
        rw [gather_map DV.toRD toRD_default]; exact h.gather ins
      have hp : ((env.map DV.toRD).getD c default).p = (env.getD c default).p :=
        congrArg RD.p (getD_map DV.toRD toRD_default env c).symm
      rw [runAEqn_cond, evalJEqn_cond, hp]
      split <;> rw [List.map_singleton, getD_map DV.toRD toRD_default,
        runAProg_toRD cfg hc sem hl _ _ hg, gather_map DV.toRD toRD_default]
end

/-! ### discrete values never carry a tangent -/

mutual
theorem runAProg_wf (cfg : Cfg) (sem : P → Prim K) (hl : ∀ p, (sem p).Lawful) :
    ∀ (p : Prog P) (env : List (DV K)), WFA env → WFA (runAProg cfg sem p env)
  | .nil, _, h => h
  | .cons e rest, env, h =>
      runAProg_wf cfg sem hl rest _ (List.forall_mem_append.mpr ⟨h, runAEqn_wf cfg sem hl e env h⟩)
theorem runAEqn_wf (cfg : Cfg) (sem : P → Prim K) (hl : ∀ p, (sem p).Lawful) :
    ∀ (e : Eqn P) (env : List (DV K)), WFA env → WFA (runAEqn cfg sem e env)
  | .prim p _, _, _ => stepA_wf cfg _ (hl p) _
  | .call _ body outs, _, _ => stepA_wf cfg _ (callPrim_lawful sem hl body outs) _
  | .fori n _ _ body outs, _, _ => stepA_wf cfg _ (loopPrim_lawful sem hl n _ body outs) _
  | .cond c ins thn thnOut els elsOut, env, h => by
      rw [runAEqn_cond]
      split <;> exact List.forall_mem_singleton.mpr ((runAProg_wf cfg sem hl _ _ (h.gather ins)).getD _)
end

/-- under any configuration, also the wrong ones; the second conjunct is the output of `jvp_estimate` -/
theorem discrete_outputs_have_zero_tangent (cfg : Cfg) (sem : P → Prim K) (hl : ∀ p, (sem p).Lawful)
    (p : Prog P) (out : Nat) (env : List (DV K)) (h : WFA env) :
    WFA (runAProg cfg sem p env) ∧
      ((adevRun cfg sem p out env).p.isDis = true → (adevRun cfg sem p out env).t = Tan.zero) := by
  refine ⟨runAProg_wf cfg sem hl p env h, ?_⟩
  rw [adevRun, evalAProg_eq]
  exact (runAProg_wf cfg sem hl p env h).getD _

/-! ### loops -/

theorem fori_add (sem : P → Prim K) (m n : Nat) (consts ins : List Nat) (body : Prog P) (outs : List Nat)
    (env : List (RD K)) :
    evalJEqn sem (.fori (m + n) consts ins body outs) env =
      iter n (fun c => gather (evalJProg sem body (gather env consts ++ c)) outs)
        (evalJEqn sem (.fori m consts ins body outs) env) :=
  iter_add _ m n _

end Genjax.Adev2

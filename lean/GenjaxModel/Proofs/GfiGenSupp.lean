import GenjaxModel.Proofs.GfiGenBase
/-!
  What can come out of `GF.generateD` (the `generateD` analogue of `Proofs/GfiDistSupp.lean`): total
  mass 1, coherent canonical traces, and never raising under a constraint that some complete choice
  map of the program's shape completes.  Together (`generateD_mass_some`) this is what proper
  weighting needs of the hidden branch of a Cond (`Cond.generate` runs both branches under the
  constraint and throws the hidden branch's weight away).
-/
namespace Genjax
open Smc Smc.FinDist

/-! ## without constraints `generate` is `simulate` -/

section None
variable {K : Type} [Field K] {R : Type} [Zero R] [Add R] [Neg R]
variable (pd : PD K) (P : Prims R) (cfg : Cfg)

/-- `vmapOK`: Vmaps accept an empty constraint; the others raise -/
theorem generateD_none : ∀ g : GF, g.vmapOK cfg = true → ∀ (args : List Val) (Φ : Tr R × K → K),
    E (g.generateD pd P cfg none args) (optK Φ) = E (g.simD pd P args) (optK fun t => Φ (t, 1)) := by
  refine (GF.rec_both (motive_2 := fun _ => True) ?_ ?_ ?_ ?_ ?_ (fun _ => trivial)
    (fun _ _ _ _ _ _ => trivial)).1
  · intro d _ args Φ
    simp only [GF.generateD, GF.simD, E, List.map_map]
    rfl
  · intro body _ _ args Φ
    simp only [GF.generateD, GF.simD, E_bindO_pureO]
  · intro g axes n ih hv args Φ
    simp only [GF.vmapOK, Bool.and_eq_true] at hv
    simp only [GF.generateD, GF.simD, hv.1, if_true, E_bindO_pureO]
    rw [forLanesD_E_map _ _ (fun t => (t, (1 : K))) fun i _ Φ' => ih hv.2 (laneArgs axes args i) Φ']
    simp only [List.map_map, Function.comp_def, List.map_id', prodK_map_one]
  · intro g n ih hv args Φ
    simp only [GF.vmapOK] at hv
    have step : ∀ (c : Val) (i : Nat) (Φ' : (Tr R × K) × Val → K),
        E (bindO (g.generateD pd P cfg none [c, (args.getD 1 .nil).nth i])
            fun tw => pureO (tw, tw.1.retval.fst)) (optK Φ')
          = E (bindO (g.simD pd P [c, (args.getD 1 .nil).nth i]) fun t => pureO (t, t.retval.fst))
              (optK fun p => Φ' ((p.1, 1), p.2)) := by
      intro c i Φ'
      rw [E_bindO_pureO, E_bindO_pureO, ih hv]
    simp only [GF.generateD, GF.simD, E_bindO_pureO]
    rw [forStepsD_E_map _ _ (fun t => (t, (1 : K))) fun c i _ => step c i]
    simp only [List.map_map, Function.comp_def, List.map_id', prodK_map_one]
  · intro t f _ _ _ args Φ
    simp only [GF.generateD, GF.simD]
    rw [E_bindO, E_bindO]
    exact E_optK_congr _ _ _ fun a _ => by rw [E_bindO_pureO, E_bindO_pureO]

end None

/-! ## total mass -/

section Mass
variable {K : Type} [Field K] {R : Type} [Zero R] [Add R] [Neg R]
variable (pd : PD K) (P : Prims R) (cfg : Cfg)

theorem generateD_mass_both (hn : pd.Normalised) :
    (∀ (g : GF) (ox : Option CM) (args : List Val), mass (g.generateD pd P cfg ox args) = 1) ∧
    ∀ (b : Body) (xs : CML) (env : List Val) (subs : TrL R) (s : R) (w : K),
      mass (b.generateD pd P cfg xs env subs s w) = 1 := by
  refine GF.rec_both ?_ ?_ ?_ ?_ ?_ ?_ ?_
  · intro d ox args
    cases ox with
    | none =>
      dsimp only [GF.generateD, mass, E]
      rw [List.map_map]
      exact (congrArg sumK (List.map_congr_left fun v _ => mul_one _)).trans (hn d args)
    | some x =>
      cases x with
      | leaf v => exact mass_pureO _
      | _ => exact mass_failO
  · intro body ih ox args
    cases ox with
    | none =>
      simp only [GF.generateD]
      exact mass_bindO_pureO _ (simD_mass_body pd P hn body _ _ _)
    | some x =>
      cases x with
      | node xs =>
        simp only [GF.generateD]
        exact mass_bindO_pureO _ (ih _ _ _ _ _)
      | _ => exact mass_failO
  · intro g axes n ih ox args
    cases ox with
    | none =>
      simp only [GF.generateD]
      split
      · exact mass_bindO_pureO _ (forLanesD_mass _ (fun i _ => ih _ _) _ _)
      · exact mass_failO
    | some x =>
      cases x with
      | lanes xs =>
        simp only [GF.generateD]
        split
        · exact mass_bindO_pureO _ (forLanesD_mass _ (fun i _ => ih _ _) _ _)
        · exact mass_failO
      | _ => exact mass_failO
  · intro g n ih ox args
    have step : ∀ (ox : Option CM) (c : Val) (i : Nat),
        mass (bindO (g.generateD pd P cfg ox [c, (args.getD 1 .nil).nth i])
          fun tw => pureO (tw, tw.1.retval.fst)) = 1 :=
      fun ox c i => mass_bindO_pureO _ (ih _ _)
    cases ox with
    | none =>
      simp only [GF.generateD]
      exact mass_bindO_pureO _ (forStepsD_mass _ (fun c i _ => step none c i) _ _ _)
    | some x =>
      cases x with
      | lanes xs =>
        simp only [GF.generateD]
        split
        · exact mass_bindO_pureO _ (forStepsD_mass _ (fun c i xi => step (some xi) c i) _ _ _)
        · exact mass_failO
      | _ => exact mass_failO
  · intro t f iht ihf ox args
    cases ox with
    | none =>
      simp only [GF.generateD]
      exact mass_bindO _ _ (simD_mass_gf pd P hn t _) fun a =>
        mass_bindO_pureO _ (simD_mass_gf pd P hn f _)
    | some x =>
      simp only [GF.generateD]
      exact mass_bindO _ _ (iht _ _) fun a => mass_bindO_pureO _ (ihf _ _)
  · intro e xs env subs s w
    exact mass_pureO _
  · intro addr g es rest ihg ihr xs env subs s w
    simp only [Body.generateD]
    split
    · exact mass_failO
    · exact mass_bindO _ _ (ihg _ _) fun t => ihr _ _ _ _ _

theorem generateD_mass_body (hn : pd.Normalised) : (b : Body) → ∀ (xs : CML) (env : List Val)
      (subs : TrL R) (s : R) (w : K), mass (b.generateD pd P cfg xs env subs s w) = 1 :=
  (generateD_mass_both pd P cfg hn).2

/-- the outcome "raised" included -/
theorem generateD_mass (hn : pd.Normalised) (g : GF) (ox : Option CM) (args : List Val) :
    mass (g.generateD pd P cfg ox args) = 1 :=
  (generateD_mass_both pd P cfg hn).1 g ox args

end Mass

/-! ## the support: coherent, canonical traces -/

section Coh
variable {K : Type} [Field K] {R : Type} [AddCommGroup R]
variable (pd : PD K) (P : Prims R) (cfg : Cfg)

/-- For a body started from the sub-traces `subs` and the score `s`, the outcome extends them as the
    invariants of the handler loop say (`BodyInv`, `BodyCanonInv`: Proofs/GfiCohInv.lean). -/
theorem generateD_cc_both :
    (∀ (g : GF) (ox : Option CM) (args : List Val) (tw : Tr R × K),
      some tw ∈ supp (g.generateD pd P cfg ox args) → g.Coh P args tw.1 ∧ g.Canon tw.1) ∧
    ∀ (b : Body) (xs : CML) (env : List Val) (subs : TrL R) (s : R) (w : K)
      (r : TrL R × Val × R × K), some r ∈ supp (b.generateD pd P cfg xs env subs s w) →
      BodyInv P b env subs s r.1 r.2.1 r.2.2.1 ∧ BodyCanonInv b subs r.1 := by
  refine GF.rec_both ?_ ?_ ?_ ?_ ?_ ?_ ?_
  · intro d ox args tw h
    cases ox with
    | none =>
      simp only [GF.generateD, supp, List.map_map, List.mem_map, Function.comp,
        Option.some.injEq] at h
      obtain ⟨v, _, rfl⟩ := h
      exact ⟨rfl, trivial⟩
    | some x =>
      cases x with
      | leaf v =>
        cases mem_supp_pureO h
        exact ⟨rfl, trivial⟩
      | _ => cases mem_supp_failO h
  · intro body ih ox args tw h
    cases ox with
    | none =>
      simp only [GF.generateD] at h
      obtain ⟨r, hr, rfl⟩ := mem_supp_bindO_pureO h
      exact ⟨BodyInv.final P (simD_inv_body pd P body _ _ _ _ hr),
        (simD_canon_body pd P body _ _ _ _ hr).final⟩
    | some x =>
      cases x with
      | node xs =>
        simp only [GF.generateD] at h
        obtain ⟨r, hr, rfl⟩ := mem_supp_bindO_pureO h
        have := ih _ _ _ _ _ _ hr
        exact ⟨BodyInv.final P this.1, this.2.final⟩
      | _ => cases mem_supp_failO h
  · intro g axes n ih ox args tw h
    have lanes : ∀ {α : Type} (ox : α → Option CM) (l : List α) (ts : List (Tr R × K)),
        some ts ∈ supp (forLanesD (fun i a => g.generateD pd P cfg (ox a) (laneArgs axes args i))
          0 l) →
        (GF.vmap g axes l.length).Coh P args (.vec (TrL.ofList (ts.map (·.1)))) ∧
          (GF.vmap g axes l.length).Canon (.vec (TrL.ofList (ts.map (·.1)))) := by
      intro α ox l ts hts
      have := forLanesD_lanesCoh _ (·.1) (fun a t => g.Coh P a t) axes args
        (fun j _ b hb => (ih _ _ _ hb).1) _ _ _ hts
      simp only [GF.Coh, GF.Canon, TrL.toList_ofList, List.length_map]
      exact ⟨this, lanesCanon_map _ _ _ (forLanesD_forall_fd _ (fun p : Tr R × K => g.Canon p.1)
        (fun i _ b hb => (ih _ _ _ hb).2) _ _ _ hts)⟩
    cases ox with
    | none =>
      simp only [GF.generateD] at h
      split at h
      · obtain ⟨ts, hts, rfl⟩ := mem_supp_bindO_pureO h
        simpa only [List.length_replicate] using lanes (fun _ => none) _ ts hts
      · cases mem_supp_failO h
    | some x =>
      cases x with
      | lanes xs =>
        simp only [GF.generateD] at h
        split at h
        · rename_i hlen
          obtain ⟨ts, hts, rfl⟩ := mem_supp_bindO_pureO h
          exact hlen ▸ lanes some _ ts hts
        · cases mem_supp_failO h
      | _ => cases mem_supp_failO h
  · intro g n ih ox args tw h
    have steps : ∀ {α : Type} (ox : α → Option CM) (l : List α) (r : List (Tr R × K) × Val),
        some r ∈ supp (forStepsD (fun c i a =>
            bindO (g.generateD pd P cfg (ox a) [c, (args.getD 1 .nil).nth i]) fun tw =>
              pureO (tw, tw.1.retval.fst)) (args.getD 0 .nil) 0 l) →
        (GF.scan g l.length).Coh P args (.scan (TrL.ofList (r.1.map (·.1))) r.2) ∧
          (GF.scan g l.length).Canon (.scan (TrL.ofList (r.1.map (·.1))) r.2) := by
      intro α ox l r hr
      have := forStepsD_stepsCoh _ (·.1) (fun a t => g.Coh P a t) (args.getD 1 .nil)
        (fun c j _ p hp => by
          obtain ⟨t, ht, rfl⟩ := mem_supp_bindO_pureO hp
          exact ⟨(ih _ _ _ ht).1, rfl⟩) _ _ _ _ hr
      simp only [GF.Coh, GF.Canon, TrL.toList_ofList, List.length_map]
      refine ⟨this, lanesCanon_map _ _ _ (forStepsD_forall_fd _ (fun p : Tr R × K => g.Canon p.1)
        (fun c i _ p hp => ?_) _ _ _ _ hr)⟩
      obtain ⟨t, ht, rfl⟩ := mem_supp_bindO_pureO hp
      exact (ih _ _ _ ht).2
    cases ox with
    | none =>
      simp only [GF.generateD] at h
      obtain ⟨r, hr, rfl⟩ := mem_supp_bindO_pureO h
      simpa only [List.length_replicate] using steps (fun _ => none) _ r hr
    | some x =>
      cases x with
      | lanes xs =>
        simp only [GF.generateD] at h
        split at h
        · rename_i hlen
          obtain ⟨r, hr, rfl⟩ := mem_supp_bindO_pureO h
          exact hlen ▸ steps some _ r hr
        · cases mem_supp_failO h
      | _ => cases mem_supp_failO h
  · intro t f iht ihf ox args tw h
    cases ox with
    | none =>
      simp only [GF.generateD] at h
      obtain ⟨a, ha, h⟩ := mem_supp_bindO h
      obtain ⟨b, hb, rfl⟩ := mem_supp_bindO_pureO h
      exact ⟨⟨rfl, simD_coh_gf pd P t _ _ ha, simD_coh_gf pd P f _ _ hb⟩,
        simD_canon_gf pd P t _ _ ha, simD_canon_gf pd P f _ _ hb⟩
    | some x =>
      simp only [GF.generateD] at h
      obtain ⟨a, ha, h⟩ := mem_supp_bindO h
      obtain ⟨b, hb, rfl⟩ := mem_supp_bindO_pureO h
      exact ⟨⟨rfl, (iht _ _ _ ha).1, (ihf _ _ _ hb).1⟩, (iht _ _ _ ha).2, (ihf _ _ _ hb).2⟩
  · intro e xs env subs s w r h
    cases mem_supp_pureO h
    exact ⟨BodyInv.ret P e env subs s, BodyCanonInv.ret e subs⟩
  · intro addr g es rest ihg ihr xs env subs s w r h
    simp only [Body.generateD] at h
    split at h
    · cases mem_supp_failO h
    · rename_i hn
      obtain ⟨tw, ht, hrest⟩ := mem_supp_bindO h
      have h1 := ihg _ _ _ ht
      have h2 := ihr _ _ _ _ _ _ hrest
      exact ⟨BodyInv.call P (by simpa using hn) h1.1 h2.1, BodyCanonInv.call h1.2 h2.2⟩

theorem generateD_cc_body : (b : Body) → ∀ (xs : CML) (env : List Val) (subs : TrL R) (s : R)
      (w : K) (r : TrL R × Val × R × K), some r ∈ supp (b.generateD pd P cfg xs env subs s w) →
      BodyInv P b env subs s r.1 r.2.1 r.2.2.1 ∧ BodyCanonInv b subs r.1 :=
  (generateD_cc_both pd P cfg).2

theorem generateD_coh_canon (g : GF) (ox : Option CM) (args : List Val) (tw : Tr R × K)
    (h : some tw ∈ supp (g.generateD pd P cfg ox args)) : g.Coh P args tw.1 ∧ g.Canon tw.1 :=
  (generateD_cc_both pd P cfg).1 g ox args tw h

theorem generateD_choices_skel (g : GF) (ox : Option CM) (args : List Val) (tw : Tr R × K)
    (h : some tw ∈ supp (g.generateD pd P cfg ox args)) : tw.1.choices.map CM.skel = g.skel :=
  have hcc := generateD_coh_canon pd P cfg g ox args tw h
  canon_choices_skel P g args tw.1 hcc.2 hcc.1

end Coh

/-! ## never raising under a compatible constraint -/

theorem CML.agreePosWith_length : ∀ (l xs : CML), l.agreePosWith xs = true →
    xs.toList.length = l.toList.length
  | .nil, .nil, _ => rfl
  | .nil, .cons _ _ _, h => by simp [CML.agreePosWith] at h
  | .cons _ _ _, .nil, h => by simp [CML.agreePosWith] at h
  | .cons _ y rest, .cons _ x xr, h => by
      simp only [CML.agreePosWith, Bool.and_eq_true] at h
      simp [CML.toList, CML.agreePosWith_length rest xr h.2]

theorem CML.agreePosWith_mem : ∀ (l xs : CML), l.agreePosWith xs = true →
    ∀ x ∈ xs.toList, ∃ y ∈ l.toList, y.agreeWith x = true
  | _, .nil, _, _, hx => nomatch hx
  | .nil, .cons _ _ _, h, _, _ => by simp [CML.agreePosWith] at h
  | .cons _ y rest, .cons _ x xr, h, x', hx' => by
      simp only [CML.agreePosWith, Bool.and_eq_true] at h
      rcases List.mem_cons.mp hx' with rfl | hx'
      · exact ⟨y, List.mem_cons_self, h.1⟩
      · obtain ⟨y', hy', hag⟩ := CML.agreePosWith_mem rest xr h.2 x' hx'
        exact ⟨y', List.mem_cons_of_mem _ hy', hag⟩

section NoFail
variable {K : Type} [Field K] {R : Type} [AddCommGroup R]
variable (pd : PD K) (P : Prims R) (cfg : Cfg)

/-- For a body: `rem`, the not-yet-visited tail of a complete dict, agrees with the constraints
    `xs`, and none of the body's addresses is among the sub-traces `subs` accumulated so far, so
    that no visit collides. -/
theorem generateD_nofail_both :
    (∀ g : GF, g.noCollide = true → g.condOK = true → g.vmapOK cfg = true →
      ∀ (ox : Option CM) (y : CM) (args : List Val), g.skel = some y.skel → agOb ox y = true →
      none ∉ supp (g.generateD pd P cfg ox args)) ∧
    ∀ b : Body, b.noCollide = true → b.condOK = true → b.vmapOK cfg = true → b.addrs.Nodup →
      ∀ (xs rem : CML) (env : List Val) (subs : TrL R) (s : R) (w : K), b.skel = some rem.skel →
      rem.agreeAllWith xs = true → (∀ a ∈ b.addrs, subs.find? a = none) →
      none ∉ supp (b.generateD pd P cfg xs env subs s w) := by
  refine GF.rec_both ?_ ?_ ?_ ?_ ?_ ?_ ?_
  · intro d _ _ _ ox y args hs ha
    obtain ⟨v0, rfl⟩ := CM.skel_leaf (Option.some.inj hs)
    cases ox with
    | none => simp [GF.generateD, supp]
    | some x =>
      cases x with
      | leaf v => exact none_not_mem_supp_pureO _
      | _ => cases ha
  · intro body ih hn hc hv ox y args hs ha
    simp only [GF.noCollide, Bool.and_eq_true, decide_eq_true_eq] at hn
    obtain ⟨X, rfl, hbs⟩ := GF.skel_fn hs
    cases ox with
    | none =>
      simp only [GF.generateD]
      exact none_not_mem_supp_bindO_pureO _ (simD_nofail_body pd P body hn.2 hn.1 _ _ _ fun a _ => rfl)
    | some x =>
      cases x with
      | node xs =>
        simp only [GF.generateD]
        exact none_not_mem_supp_bindO_pureO _ (ih hn.2 hc hv hn.1 xs X _ _ _ _ hbs ha fun a _ => rfl)
      | _ => cases ha
  · intro g axes n ih hn hc hv ox y args hs ha
    simp only [GF.vmapOK, Bool.and_eq_true] at hv
    obtain ⟨l, rfl, -, hl2, hl3⟩ := skelLanes_lanes hs
    cases ox with
    | none =>
      simp only [GF.generateD, hv.1, if_true]
      refine none_not_mem_supp_bindO_pureO _ (forLanesD_nofail_mem _ _ _ fun j a ha => ?_)
      have hpos := List.length_pos_of_mem ha
      rw [List.length_replicate, ← hl2] at hpos
      obtain ⟨y0, hy0⟩ := List.exists_mem_of_length_pos hpos
      exact ih hn hc hv.2 none y0 _ (hl3 y0 hy0) rfl
    | some x =>
      cases x with
      | lanes xs =>
        simp only [GF.generateD, if_pos ((CML.agreePosWith_length l xs ha).trans hl2)]
        refine none_not_mem_supp_bindO_pureO _ (forLanesD_nofail_mem _ _ _ fun j x hx => ?_)
        obtain ⟨y', hy', hag⟩ := CML.agreePosWith_mem l xs ha x hx
        exact ih hn hc hv.2 (some x) y' _ (hl3 y' hy') hag
      | _ => cases ha
  · intro g n ih hn hc hv ox y args hs ha
    obtain ⟨l, rfl, -, hl2, hl3⟩ := skelLanes_lanes hs
    have step : ∀ (ox : Option CM) (y' : CM) (c : Val) (i : Nat), y' ∈ l.toList →
        agOb ox y' = true →
        none ∉ supp (bindO (g.generateD pd P cfg ox [c, (args.getD 1 .nil).nth i])
          fun tw => pureO (tw, tw.1.retval.fst)) :=
      fun ox y' c i hy' hag => none_not_mem_supp_bindO_pureO _ (ih hn hc hv ox y' _ (hl3 y' hy') hag)
    cases ox with
    | none =>
      simp only [GF.generateD]
      refine none_not_mem_supp_bindO_pureO _ (forStepsD_nofail_mem _ _ _ _ fun c j a ha => ?_)
      have hpos := List.length_pos_of_mem ha
      rw [List.length_replicate, ← hl2] at hpos
      obtain ⟨y0, hy0⟩ := List.exists_mem_of_length_pos hpos
      exact step none y0 c j hy0 rfl
    | some x =>
      cases x with
      | lanes xs =>
        simp only [GF.generateD, if_pos ((CML.agreePosWith_length l xs ha).trans hl2)]
        refine none_not_mem_supp_bindO_pureO _ (forStepsD_nofail_mem _ _ _ _ fun c j x hx => ?_)
        obtain ⟨y', hy', hag⟩ := CML.agreePosWith_mem l xs ha x hx
        exact step (some x) y' c j hy' hag
      | _ => cases ha
  · intro t f iht ihf hn hc hv ox y args hs ha
    simp only [GF.noCollide, Bool.and_eq_true] at hn
    cases ox with
    | none =>
      simp only [GF.generateD]
      exact none_not_mem_supp_bindO (simD_nofail_gf pd P t hn.1 _) fun _ =>
        none_not_mem_supp_bindO_pureO _ (simD_nofail_gf pd P f hn.2 _)
    | some x =>
      obtain ⟨hct, hcf, hsk, -, -⟩ := GF.condOK_cond hc
      simp only [GF.vmapOK, Bool.and_eq_true] at hv
      have hts := GF.skel_cond hsk hs
      simp only [GF.generateD]
      exact none_not_mem_supp_bindO (iht hn.1 hct hv.1 (some x) y _ hts ha) fun _ =>
        none_not_mem_supp_bindO_pureO _ (ihf hn.2 hcf hv.2 (some x) y _ (hsk ▸ hts) ha)
  · intro e _ _ _ _ xs rem env subs s w _ _ _
    exact none_not_mem_supp_pureO _
  · intro addr g es rest ihg ihr hn hc hv hnd xs rem env subs s w hs ha hfresh
    simp only [Body.noCollide, Bool.and_eq_true] at hn
    simp only [Body.condOK, Bool.and_eq_true] at hc
    simp only [Body.vmapOK, Bool.and_eq_true] at hv
    simp only [Body.addrs, List.nodup_cons] at hnd
    obtain ⟨c, rem', rfl, hgs, hrs⟩ := Body.skel_call hs
    simp only [CML.agreeAllWith, Bool.and_eq_true] at ha
    simp only [Body.generateD, hfresh addr List.mem_cons_self, Option.isSome_none,
      Bool.false_eq_true, if_false]
    refine none_not_mem_supp_bindO (ihg hn.1 hc.1 hv.1 (xs.find? addr) c _ hgs ?_) fun tw =>
      ihr hn.2 hc.2 hv.2 hnd.2 xs rem' _ _ _ _ hrs ha.2 fun a ha' =>
        TrL.find?_snoc_none (hfresh a (List.mem_cons_of_mem _ ha')) fun e => hnd.1 (e ▸ ha')
    cases hx : xs.find? addr with
    | none => rfl
    | some x => rw [hx] at ha; exact ha.1

theorem generateD_nofail_body : (b : Body) → b.noCollide = true → b.condOK = true →
      b.vmapOK cfg = true → b.addrs.Nodup → ∀ (xs rem : CML) (env : List Val) (subs : TrL R)
      (s : R) (w : K), b.skel = some rem.skel → rem.agreeAllWith xs = true →
      (∀ a ∈ b.addrs, subs.find? a = none) → none ∉ supp (b.generateD pd P cfg xs env subs s w) :=
  (generateD_nofail_both pd P cfg).2

/-- `generate` never raises under a constraint that has a completion `y` of the program's shape
    (or without constraint) -/
theorem generateD_nofail (g : GF) (hn : g.noCollide = true) (hc : g.condOK = true)
    (hv : g.vmapOK cfg = true) (ox : Option CM) (y : CM) (args : List Val)
    (hs : g.skel = some y.skel) (ha : agOb ox y = true) :
    none ∉ supp (g.generateD pd P cfg ox args) :=
  (generateD_nofail_both pd P cfg).1 g hn hc hv ox y args hs ha

theorem generateD_mass_some (hnorm : pd.Normalised) (g : GF) (hn : g.noCollide = true)
    (hc : g.condOK = true) (hv : g.vmapOK cfg = true) (ox : Option CM) (y : CM) (args : List Val)
    (hs : g.skel = some y.skel) (ha : agOb ox y = true) :
    E (g.generateD pd P cfg ox args) (optK fun _ => (1 : K)) = 1 := by
  refine Eq.trans ?_ (generateD_mass pd P cfg hnorm g ox args)
  apply E_congr_supp
  intro o ho
  cases o with
  | none => exact absurd ho (generateD_nofail pd P cfg g hn hc hv ox y args hs ha)
  | some t => rfl

theorem generateD_const (hnorm : pd.Normalised) (g : GF) (hn : g.noCollide = true)
    (hc : g.condOK = true) (hv : g.vmapOK cfg = true) (ox : Option CM) (y : CM) (args : List Val)
    (hs : g.skel = some y.skel) (ha : agOb ox y = true) (C : K) :
    E (g.generateD pd P cfg ox args) (optK fun _ => C) = C := by
  have := E_optK_mul_left (g.generateD pd P cfg ox args) C (fun _ => 1)
  simp only [mul_one] at this
  rw [this, generateD_mass_some pd P cfg hnorm g hn hc hv ox y args hs ha, mul_one]

end NoFail

end Genjax

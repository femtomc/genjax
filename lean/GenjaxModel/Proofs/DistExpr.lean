import GenjaxModel.Model.DistExpr
import GenjaxModel.Proofs.DistSpec
import GenjaxModel.Proofs.DistSpec2
import GenjaxModel.Proofs.DistSpec3
import GenjaxModel.Proofs.DistSpec4
import GenjaxModel.Proofs.DistSpec5
/-!
# C13 — denotation of the executable density terms of `Model/DistExpr.lean`

`DE.denoteV ps xs e` is the real number denoted by the term `e` at parameters `ps` and point `xs`
(Mathlib's totalised real operations); `DE.denote e ps x = DE.denoteV ps [x] e` for scalar points.
For every entry of `DistExpr.specTable` the theorem `spec_<name>_denotes` says that the term's
denotation is — for ALL real parameter values and ALL points, inside the documented domain or not —
the density / mass function `<name>Pdf` / `<name>Pmf` of `Proofs/DistSpec*.lean` whose total mass
is proved to be one there.  Discrete points are embedded as `(k : ℝ)` / `boolPt b`.
(The vector-argument entries are in `Proofs/DistExprVec.lean`.)
-/

namespace Genjax
open Real

namespace DE

noncomputable def denoteV (ps xs : List ℝ) : DE → ℝ
  | const q => (q : ℝ)
  | x => xs.getD 0 0
  | xi i => xs.getD i 0
  | param i => ps.getD i 0
  | add a b => denoteV ps xs a + denoteV ps xs b
  | sub a b => denoteV ps xs a - denoteV ps xs b
  | mul a b => denoteV ps xs a * denoteV ps xs b
  | div a b => denoteV ps xs a / denoteV ps xs b
  | neg a => -denoteV ps xs a
  | inv a => (denoteV ps xs a)⁻¹
  | npow a n => denoteV ps xs a ^ n
  | exp a => Real.exp (denoteV ps xs a)
  | log a => Real.log (denoteV ps xs a)
  | sqrt a => Real.sqrt (denoteV ps xs a)
  | pi => π
  | rpow a b => denoteV ps xs a ^ denoteV ps xs b
  | gamma a => Real.Gamma (denoteV ps xs a)
  | abs a => |denoteV ps xs a|
  | natFact a => ((⌊denoteV ps xs a⌋₊).factorial : ℝ)
  | chooseR a k => Ring.choose (denoteV ps xs a) ⌊denoteV ps xs k⌋₊
  | ifLt a b t e => if denoteV ps xs a < denoteV ps xs b then denoteV ps xs t else denoteV ps xs e
  | ifLe a b t e => if denoteV ps xs a ≤ denoteV ps xs b then denoteV ps xs t else denoteV ps xs e
  | zeta a => (riemannZeta ((denoteV ps xs a : ℝ) : ℂ)).re

noncomputable def denote (e : DE) (ps : List ℝ) (x : ℝ) : ℝ := denoteV ps [x] e

end DE

namespace DistSpec
open DE DistExpr

def boolPt (b : Bool) : ℝ := if b then 1 else 0

/-- how the terms test a Boolean outcome -/
theorem boolPt_pos (b : Bool) : 0 < boolPt b ↔ b = true := by
  cases b <;> simp [boolPt]

/-! Each proof unfolds the term's denotation and the density: the two sides then agree up to the
casts of the rational literals (and `rpow`/`⌊·⌋₊` at natural-number points). -/

theorem spec_bernoulli_denotes (l : ℝ) (b : Bool) :
    spec_bernoulli.denote [l] (boolPt b) = bernoulliLogitsPmf l b := by
  simp only [spec_bernoulli, denote, denoteV, bernoulliLogitsPmf, List.getD_cons_zero,
    Rat.cast_zero, Rat.cast_one, boolPt_pos]

theorem spec_flip_denotes (p : ℝ) (b : Bool) : spec_flip.denote [p] (boolPt b) = flipPmf p b := by
  simp only [spec_flip, denote, denoteV, flipPmf, List.getD_cons_zero, Rat.cast_zero, Rat.cast_one,
    boolPt_pos]

theorem spec_beta_denotes (a b x : ℝ) : spec_beta.denote [a, b] x = betaPdf a b x := by
  simp only [spec_beta, denote, denoteV, betaPdf, List.getD_cons_zero, List.getD_cons_succ,
    Rat.cast_one, Rat.cast_zero, ite_and]

theorem spec_geometric_denotes (p : ℝ) (k : ℕ) :
    spec_geometric.denote [p] (k : ℝ) = geometricPmf p k := by
  simp only [spec_geometric, denote, denoteV, geometricPmf, List.getD_cons_zero, Rat.cast_one,
    Real.rpow_natCast]

theorem spec_normal_denotes (μ σ x : ℝ) : spec_normal.denote [μ, σ] x = normalPdf μ σ x := by
  simp only [spec_normal, denote, denoteV, normalPdf, List.getD_cons_zero, List.getD_cons_succ,
    Rat.cast_ofNat]

theorem spec_uniform_denotes (a b x : ℝ) : spec_uniform.denote [a, b] x = uniformPdf a b x := by
  simp only [spec_uniform, denote, denoteV, uniformPdf, List.getD_cons_zero, List.getD_cons_succ,
    Rat.cast_one, Rat.cast_zero, ite_and]

theorem spec_exponential_denotes (r x : ℝ) :
    spec_exponential.denote [r] x = exponentialPdf r x := by
  simp only [spec_exponential, denote, denoteV, exponentialPdf, List.getD_cons_zero, Rat.cast_zero]

theorem spec_poisson_denotes (r : ℝ) (k : ℕ) :
    spec_poisson.denote [r] (k : ℝ) = poissonPmf r k := by
  simp only [spec_poisson, denote, denoteV, poissonPmf, List.getD_cons_zero, Real.rpow_natCast,
    Nat.floor_natCast]

/-- beyond `k = n` both sides vanish: the term by its guard, the mass function by `C(n,k) = 0` -/
theorem spec_binomial_denotes (n : ℕ) (p : ℝ) (k : ℕ) :
    spec_binomial.denote [(n : ℝ), p] (k : ℝ) = binomialPmf n p k := by
  simp only [spec_binomial, denote, denoteV, binomialPmf, List.getD_cons_zero, List.getD_cons_succ,
    Nat.cast_le, Nat.floor_natCast, Ring.choose_natCast, Real.rpow_natCast, Rat.cast_one,
    Rat.cast_zero]
  split_ifs with h
  · rw [← Nat.cast_sub h, Real.rpow_natCast]
  · rw [Nat.choose_eq_zero_of_lt (not_le.mp h), Nat.cast_zero, zero_mul, zero_mul]

theorem spec_gamma_denotes (a r x : ℝ) : spec_gamma.denote [a, r] x = gammaPdf a r x := by
  simp only [spec_gamma, denote, denoteV, gammaPdf, List.getD_cons_zero, List.getD_cons_succ,
    Rat.cast_one, Rat.cast_zero]

theorem spec_log_normal_denotes (μ σ x : ℝ) :
    spec_log_normal.denote [μ, σ] x = logNormalPdf μ σ x := by
  simp only [spec_log_normal, denote, denoteV, logNormalPdf, List.getD_cons_zero,
    List.getD_cons_succ, Rat.cast_one, Rat.cast_zero, Rat.cast_ofNat]

theorem spec_student_t_denotes (ν μ σ x : ℝ) :
    spec_student_t.denote [ν, μ, σ] x = studentTPdf ν μ σ x := by
  simp only [spec_student_t, denote, denoteV, studentTPdf, List.getD_cons_zero,
    List.getD_cons_succ, Rat.cast_one, Rat.cast_ofNat]

theorem spec_laplace_denotes (μ b x : ℝ) : spec_laplace.denote [μ, b] x = laplacePdf μ b x := by
  simp only [spec_laplace, denote, denoteV, laplacePdf, List.getD_cons_zero, List.getD_cons_succ,
    Rat.cast_one, Rat.cast_ofNat]

theorem spec_half_normal_denotes (σ x : ℝ) :
    spec_half_normal.denote [σ] x = halfNormalPdf σ x := by
  simp only [spec_half_normal, denote, denoteV, halfNormalPdf, List.getD_cons_zero, Rat.cast_zero,
    Rat.cast_ofNat]

theorem spec_inverse_gamma_denotes (a b x : ℝ) :
    spec_inverse_gamma.denote [a, b] x = inverseGammaPdf a b x := by
  simp only [spec_inverse_gamma, denote, denoteV, inverseGammaPdf, List.getD_cons_zero,
    List.getD_cons_succ, Rat.cast_one, Rat.cast_zero]

theorem spec_weibull_denotes (k l x : ℝ) : spec_weibull.denote [k, l] x = weibullPdf k l x := by
  simp only [spec_weibull, denote, denoteV, weibullPdf, List.getD_cons_zero, List.getD_cons_succ,
    Rat.cast_one, Rat.cast_zero]

theorem spec_cauchy_denotes (x₀ γ x : ℝ) : spec_cauchy.denote [x₀, γ] x = cauchyPdf x₀ γ x := by
  simp only [spec_cauchy, denote, denoteV, cauchyPdf, List.getD_cons_zero, List.getD_cons_succ,
    Rat.cast_one]

theorem spec_chi2_denotes (k x : ℝ) : spec_chi2.denote [k] x = chi2Pdf k x := by
  simp only [spec_chi2, denote, denoteV, chi2Pdf, List.getD_cons_zero, Rat.cast_one, Rat.cast_zero,
    Rat.cast_ofNat]

theorem spec_negative_binomial_denotes (r p : ℝ) (k : ℕ) :
    spec_negative_binomial.denote [r, p] (k : ℝ) = negativeBinomialPmf r p k := by
  simp only [spec_negative_binomial, denote, denoteV, negativeBinomialPmf, List.getD_cons_zero,
    List.getD_cons_succ, Rat.cast_one, Real.rpow_natCast, Nat.floor_natCast]

theorem spec_zipf_denotes (s : ℝ) (k : ℕ) : spec_zipf.denote [s] (k : ℝ) = zipfPmf s k := by
  simp only [spec_zipf, denote, denoteV, zipfPmf, List.getD_cons_zero, Rat.cast_one, Rat.cast_zero,
    Nat.one_le_cast]

end DistSpec
end Genjax

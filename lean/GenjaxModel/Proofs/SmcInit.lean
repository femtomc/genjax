import GenjaxModel.Model.SmcInit
import GenjaxModel.Proofs.GfiGenLawCondSum
import GenjaxModel.Proofs.ViMerge
/-!
  C10: one particle of `init` / `extend` (`Model/SmcInit.lean`) is properly weighted.

  Default proposal: the particle is `generate` under the constraints (`generateD_obs_sum`).  Custom
  proposal: the expectation splits over the proposal's choice maps `z`; each part is `generate` under
  the merged constraint with the weight divided by `q(z)`, and a complete map agrees with the merge of
  two disjoint dicts iff it agrees with both (`smcMerge_agree`), so swapping the two sums gives the
  same right-hand side (`proposal_properly_weighted`).  Pipelines of such steps are instances of the
  particle system of `Proofs/Smc.lean`.
-/
namespace Genjax
open Genjax.Vi

/-! ## merging disjoint choice maps -/

mutual
  /-- the two choice maps address disjoint sets of Distribution sites: on an address both carry,
      both values are dicts which are again disjoint -/
  def CM.disjB : CM → CM → Bool
    | .node a, .node b => CML.disjB a b
    | _, _ => false
  def CML.disjB : CML → CML → Bool
    | .nil, _ => true
    | .cons k v rest, b =>
        (match b.find? k with
         | none => true
         | some v' => CM.disjB v v') && CML.disjB rest b
end

theorem CML.disjB_find : (a b : CML) → CML.disjB a b = true → ∀ k va vb,
    a.find? k = some va → b.find? k = some vb → CM.disjB va vb = true
  | .nil, _, _, k, va, vb, ha, _ => nomatch ha
  | .cons k' v rest, b, h, k, va, vb, ha, hb => by
    simp only [CML.disjB, Bool.and_eq_true] at h
    rw [CML.find?] at ha
    split at ha
    · rename_i hk
      cases ha
      rw [← hk, hb] at h
      exact h.1
    · exact CML.disjB_find rest b h.2 k va vb ha hb

theorem CM.disjB_node {va vb : CM} (h : CM.disjB va vb = true) :
    ∃ u v, va = .node u ∧ vb = .node v ∧ CML.disjB u v = true := by
  cases va with
  | node u =>
    cases vb with
    | node v => exact ⟨u, v, rfl, rfl, by rwa [CM.disjB] at h⟩
    | leaf _ => cases h
    | lanes _ => cases h
  | leaf _ => cases h
  | lanes _ => cases h

/-- induction motive of `CML.mergeAgree`; either merge order, since `init` and `extend` differ in it -/
def MergeAgree (u : CML) : Prop :=
  ∀ (b m : CML), CML.disjB u b = true →
    (CML.mergeNoCheck u b = some m ∨ CML.mergeNoCheck b u = some m) →
    ∀ y : CML, y.agreeAllWith m = (y.agreeAllWith u && y.agreeAllWith b)

theorem CML.agreeAllWith_split : (y m a b : CML) →
    (∀ k (yv : CM), agOb (m.find? k) yv = (agOb (a.find? k) yv && agOb (b.find? k) yv)) →
    y.agreeAllWith m = (y.agreeAllWith a && y.agreeAllWith b)
  | .nil, _, _, _, _ => by simp [CML.agreeAllWith]
  | .cons k yv rest, m, a, b, h => by
    simp only [CML.agreeAllWith_cons]
    rw [h k yv, CML.agreeAllWith_split rest m a b h]
    cases agOb (a.find? k) yv <;> cases agOb (b.find? k) yv <;>
      cases rest.agreeAllWith a <;> cases rest.agreeAllWith b <;> rfl

theorem mergeAgree_step (a : CML)
    (H : ∀ k va, a.find? k = some va → ∀ u, va = .node u → MergeAgree u) : MergeAgree a := by
  intro b m hd hm y
  have hfind : ∀ k, m.find? k = mergeAt (a.find? k) (b.find? k)
      ∨ m.find? k = mergeAt (b.find? k) (a.find? k) := by
    intro k
    rcases hm with hm | hm
    · exact Or.inl (CML.find?_mergeNoCheck a b m hm k)
    · exact Or.inr (CML.find?_mergeNoCheck b a m hm k)
  apply CML.agreeAllWith_split
  intro k yv
  cases ha : a.find? k with
  | none =>
    have : m.find? k = b.find? k := by
      rcases hfind k with h | h
      · rw [h, ha, mergeAt_none_left]
      · rw [h, ha, mergeAt_none_right]
    rw [this]
    simp [agOb]
  | some va =>
    cases hb : b.find? k with
    | none =>
      have : m.find? k = some va := by
        rcases hfind k with h | h
        · rw [h, ha, hb, mergeAt_none_right]
        · rw [h, ha, hb, mergeAt_none_left]
      rw [this]
      simp [agOb]
    | some vb =>
      obtain ⟨u, v, rfl, rfl, huv⟩ := CM.disjB_node (CML.disjB_find a b hd k _ _ ha hb)
      have hmm : ∃ mm, m.find? k = some (.node mm)
          ∧ (CML.mergeNoCheck u v = some mm ∨ CML.mergeNoCheck v u = some mm) := by
        rcases hfind k with h | h
        · obtain ⟨mm, hmm⟩ := CML.mergeNoCheck_total u v
          exact ⟨mm, by rw [h, ha, hb]; simp [mergeAt, hmm], Or.inl hmm⟩
        · obtain ⟨mm, hmm⟩ := CML.mergeNoCheck_total v u
          exact ⟨mm, by rw [h, ha, hb]; simp [mergeAt, hmm], Or.inr hmm⟩
      obtain ⟨mm, hmk, hmm⟩ := hmm
      rw [hmk]
      cases yv with
      | node yy =>
        simp only [agOb, CM.agreeWith]
        exact H k (.node u) ha u rfl v mm huv hmm yy
      | leaf _ => simp [agOb, CM.agreeWith]
      | lanes _ => simp [agOb, CM.agreeWith]

theorem CML.mergeAgree_find (a : CML) :
    ∀ k va, a.find? k = some va → ∀ u, va = .node u → MergeAgree u := by
  refine CML.rec (motive_1 := fun c => ∀ u, c = .node u → MergeAgree u)
    (motive_2 := fun a => ∀ k va, a.find? k = some va → ∀ u, va = .node u → MergeAgree u)
    ?_ ?_ ?_ ?_ ?_ a
  · intro _ _ h; cases h
  · intro u ih _ h; cases h; exact mergeAgree_step u ih
  · intro _ _ _ h; cases h
  · intro _ _ h; exact nomatch h
  · intro k' v rest ihv ihr k va h u hu
    rw [CML.find?] at h
    split at h
    · cases h; exact ihv u hu
    · exact ihr k va h u hu

theorem CML.mergeAgree (a : CML) : MergeAgree a := mergeAgree_step a (CML.mergeAgree_find a)

theorem CM.mergeAgree_aux : (c : CM) → ∀ u, c = .node u → MergeAgree u :=
  fun _ u _ => CML.mergeAgree u

end Genjax

namespace Genjax.Smc
open Genjax Smc.FinDist

section Sums
variable {K : Type} [Field K]

theorem sumK_indicator_none_fd {α : Type} (l : List α) (p : α → Bool)
    (hnone : ∀ a ∈ l, p a = false) :
    sumK (l.map fun a => if p a then (1 : K) else 0) = 0 := by
  rw [sumK_map_congr_fd l _ (fun _ => (0 : K)), sumK_zeros_fd]
  intro a ha
  rw [hnone a ha]
  rfl

end Sums

/-! ## the default proposal: `generate` against observable test functions -/

section Law
variable {K : Type} [Field K] {R : Type} [AddCommGroup R]
variable (pd : PD K) (P : Prims R) (cfg : Cfg)

/-- `generate` under constraints is properly weighted (`init` / `extend` with the default proposal):
    `E_{(t,w) ∼ generate(x)}[w · F(t)] = Σ_{y ∈ ys, y ⊇ x} p(y) · F(y, retval(y))`, `p(y)` the joint
    mass `assessP` computes -/
theorem generateD_obs_sum (hpd : pd.WF) (hnorm : pd.Normalised) (g : GF) (hc : g.condOK = true)
    (hv : g.vmapOK cfg = true) (x : CM) (args : List Val) (ys : List CM) (hnd : ys.Nodup)
    (hcov : ∀ t, some t ∈ supp (g.simD pd P args) → ∃ y ∈ ys, t.choices = some y)
    (hshape : ∀ y ∈ ys, g.skel = some y.skel) (F : CM → Val → K) :
    E (g.generateD pd P cfg (some x) args) (optK fun tw => tw.2 * obsF F tw.1)
      = sumK (ys.map fun y => if y.agreeWith x then massOf (g.assessP pd y args) (F y) else 0) := by
  rw [generateD_law_obs pd P cfg hpd hnorm g hc hv (some x) args F,
    E_split_choices _ _ ys hnd hcov]
  apply sumK_map_congr_fd
  intro y hy
  have hfib : E (g.simD pd P args)
        (optK fun t => if t.choices = some y then t.agT (some x) * obsF F t else 0)
      = E (g.simD pd P args) (optK fun t => t.agT (some x) * choicesAre y (F y) t) :=
    E_optK_congr _ _ _ fun t _ => by
      simp only [choicesAre]
      split
      · rename_i h; rw [obsF_of_choices F h]
      · rw [mul_zero]
  exact hfib.trans ((simD_agree_pointwise_cond pd P hpd hnorm g hc (some x) y args (F y)
    (hshape y hy)).trans (boole_mul _ _))

/-! ## custom proposal -/

/-- `cs = true`: `init`, `cs = false`: `extend` -/
theorem smcMerge_agree (cs : Bool) (xs zs : CML) (hd : CML.disjB xs zs = true) :
    ∃ m, smcMerge cs (.node xs) (.node zs) = some m ∧
      ∀ y : CM, y.agreeWith m = (y.agreeWith (.node xs) && y.agreeWith (.node zs)) := by
  obtain ⟨mm, hmm, hor⟩ : ∃ mm, smcMerge cs (.node xs) (.node zs) = some (.node mm) ∧
      (CML.mergeNoCheck xs zs = some mm ∨ CML.mergeNoCheck zs xs = some mm) := by
    cases cs
    · obtain ⟨mm, h⟩ := Vi.CML.mergeNoCheck_total xs zs
      exact ⟨mm, by rw [smcMerge, if_neg Bool.false_ne_true, Vi.CM.mergeNoCheck_node, h]; rfl, .inl h⟩
    · obtain ⟨mm, h⟩ := Vi.CML.mergeNoCheck_total zs xs
      exact ⟨mm, by rw [smcMerge, if_pos rfl, Vi.CM.mergeNoCheck_node, h]; rfl, .inr h⟩
  refine ⟨.node mm, hmm, fun y => ?_⟩
  cases y with
  | node yy => exact CML.mergeAgree xs zs mm hd hor yy
  | leaf _ => rfl
  | lanes _ => rfl

/-- the hypothesis `hmerge` of `proposal_properly_weighted` from the executable `CM.disjB` -/
theorem hmerge_of_disjoint (cs : Bool) (obs : CM) (Z ys : List CM)
    (hd : ∀ z ∈ Z, CM.disjB obs z = true) :
    ∀ z ∈ Z, ∃ m, smcMerge cs obs z = some m ∧
      ∀ y ∈ ys, y.agreeWith m = (y.agreeWith obs && y.agreeWith z) := by
  intro z hz
  obtain ⟨xs, zs, rfl, rfl, hxz⟩ := CM.disjB_node (hd z hz)
  obtain ⟨m, hm, hag⟩ := smcMerge_agree cs xs zs hxz
  exact ⟨m, hm, fun y _ => hag y⟩

theorem proposalParticle_split (hpd : pd.WF) (hnorm : pd.Normalised) (cs : Bool) (g : GF)
    (targs : List Val) (obs : CM) (q : GF) (hqc : q.condOK = true) (qargs : List Val)
    (Z : List CM) (hZnd : Z.Nodup)
    (hZcov : ∀ t, some t ∈ supp (q.simD pd P qargs) → ∃ z ∈ Z, t.choices = some z)
    (hZshape : ∀ z ∈ Z, q.skel = some z.skel) (φ : Tr R × K → K) :
    E (proposalParticleD pd P cfg cs g targs obs q qargs) (optK φ)
      = sumK (Z.map fun z => pmassOf (q.assessP pd z qargs)
          * E (afterProposalD pd P cfg cs g targs obs q qargs z) (optK φ)) := by
  unfold proposalParticleD
  rw [E_bindO]
  exact simD_E_choices pd P hpd hnorm q hqc qargs Z hZnd hZcov hZshape _ _ fun t z hz => by rw [hz]

theorem afterProposal_E (cs : Bool) (g : GF) (targs : List Val) (obs : CM)
    (q : GF) (qargs : List Val) (z m : CM) (qr : K × Val) (hm : smcMerge cs obs z = some m)
    (hq : q.assessP pd z qargs = some qr) (φ : Tr R × K → K) :
    E (afterProposalD pd P cfg cs g targs obs q qargs z) (optK φ)
      = E (g.generateD pd P cfg (some m) targs) (optK fun tw => φ (tw.1, tw.2 / qr.1)) := by
  simp only [afterProposalD, hm, hq]
  rw [E_bindO]
  exact E_optK_congr _ _ _ fun tw _ => by rw [E_pureO, optK_some]

/-- `particleScoreD` multiplies the weight of `generate` by `e(score)` as smc.py does,
    `proposalParticleD` divides it by the mass `q.assessP` assigns to the proposal's choice map -/
theorem particleScoreD_E (e : R → K) (he0 : e 0 = 1) (hadd : ∀ a b, e (a + b) = e a * e b)
    (hpm : ∀ d a v, pd.pm d a v = e (P.lp d a v)) (cs : Bool) (g : GF) (targs : List Val) (obs : CM)
    (q : GF) (qargs : List Val) (φ : Tr R × K → K) :
    E (particleScoreD pd P cfg e cs g targs obs q qargs) (optK φ)
      = E (proposalParticleD pd P cfg cs g targs obs q qargs) (optK φ) := by
  unfold particleScoreD proposalParticleD
  rw [E_bindO, E_bindO]
  apply E_optK_congr
  intro pt hpt
  cases hz : pt.choices with
  | none => rfl
  | some z =>
    -- every trace `simulate` returns is coherent, so its score is `−log q(z)`
    obtain ⟨hQ, hdiv⟩ := Vi.assessP_of_coh P e he0 hadd pd hpm q qargs pt
      (simD_coh pd P q qargs pt hpt) z hz
    simp only [afterProposalD, hQ]
    cases smcMerge cs obs z with
    | none => rfl
    | some m =>
      rw [E_bindO, E_bindO]
      exact E_optK_congr _ _ _ fun tw _ => by rw [E_pureO, E_pureO, hdiv]

theorem pmassOf_ne_zero_of_massOf {o : Option (K × Val)} {ψ : Val → K} (h : massOf o ψ ≠ 0) :
    pmassOf o ≠ 0 := by
  cases o with
  | none => exact absurd rfl h
  | some pr => exact left_ne_zero_of_mul h

theorem ite_and_eq_mul (a b : Bool) (M : K) :
    (if (a && b) = true then M else 0) = (if b then 1 else 0) * (if a then M else 0) := by
  cases a <;> cases b <;> simp

/-- A particle with a custom proposal is properly weighted (`init`: `cs = true`, `extend`:
    `cs = false`), for a proposal covering any subset of the target's unobserved addresses: the same
    right-hand side as for the default proposal (`generateD_obs_sum`).
    * `hmerge`  holds for dicts over disjoint addresses (`smcMerge_agree`),
    * `huniq`   holds when the proposal's addresses are addresses of the target,
    * `hdom`    domination: every completion of the constraints of non-zero joint mass restricts
                to a choice map of the proposal of non-zero proposal mass. -/
theorem proposal_properly_weighted (hpd : pd.WF) (hnorm : pd.Normalised) (cs : Bool) (g : GF)
    (hc : g.condOK = true) (hv : g.vmapOK cfg = true) (targs : List Val) (obs : CM) (q : GF)
    (hqn : q.noCollide = true) (hqc : q.condOK = true) (qargs : List Val)
    (Z : List CM) (hZnd : Z.Nodup)
    (hZcov : ∀ t, some t ∈ supp (q.simD pd P qargs) → ∃ z ∈ Z, t.choices = some z)
    (hZshape : ∀ z ∈ Z, q.skel = some z.skel)
    (ys : List CM) (hnd : ys.Nodup)
    (hcov : ∀ t, some t ∈ supp (g.simD pd P targs) → ∃ y ∈ ys, t.choices = some y)
    (hshape : ∀ y ∈ ys, g.skel = some y.skel)
    (hmerge : ∀ z ∈ Z, ∃ m, smcMerge cs obs z = some m ∧
      ∀ y ∈ ys, y.agreeWith m = (y.agreeWith obs && y.agreeWith z))
    (huniq : ∀ y ∈ ys, ∀ z1 ∈ Z, ∀ z2 ∈ Z,
      y.agreeWith z1 = true → y.agreeWith z2 = true → z1 = z2)
    (hdom : ∀ y ∈ ys, y.agreeWith obs = true → pmassOf (g.assessP pd y targs) ≠ 0 →
      ∃ z ∈ Z, y.agreeWith z = true ∧ pmassOf (q.assessP pd z qargs) ≠ 0)
    (F : CM → Val → K) :
    E (proposalParticleD pd P cfg cs g targs obs q qargs) (optK fun tw => tw.2 * obsF F tw.1)
      = sumK (ys.map fun y =>
          if y.agreeWith obs then massOf (g.assessP pd y targs) (F y) else 0) := by
  rw [proposalParticle_split pd P cfg hpd hnorm cs g targs obs q hqc qargs Z hZnd hZcov hZshape]
  -- each summand as a sum over the complete choice maps; `q(z) / q(z)` is the indicator of `q(z) ≠ 0`
  have hz : ∀ z ∈ Z, pmassOf (q.assessP pd z qargs)
        * E (afterProposalD pd P cfg cs g targs obs q qargs z) (optK fun tw => tw.2 * obsF F tw.1)
      = sumK (ys.map fun y =>
          (pmassOf (q.assessP pd z qargs) / pmassOf (q.assessP pd z qargs)
              * (if y.agreeWith z then 1 else 0))
            * (if y.agreeWith obs then massOf (g.assessP pd y targs) (F y) else 0)) := by
    intro z hzZ
    obtain ⟨m, hm, hag⟩ := hmerge z hzZ
    obtain ⟨qr, hqr⟩ := Option.isSome_iff_exists.mp
      (assessP_defined pd q hqn hqc z qargs (hZshape z hzZ))
    rw [afterProposal_E pd P cfg cs g targs obs q qargs z m qr hm hqr,
      E_optK_congr _ _ (fun tw => (1 / qr.1) * (tw.2 * obsF F tw.1)) (fun tw _ => by ring),
      E_optK_mul_left, generateD_obs_sum pd P cfg hpd hnorm g hc hv m targs ys hnd hcov hshape F,
      hqr, ← mul_assoc, mul_one_div, ← sumK_map_mul_left]
    apply sumK_map_congr_fd
    intro y hy
    rw [hag y hy, ite_and_eq_mul, mul_assoc]
    rfl
  rw [sumK_map_congr_fd Z _ _ hz, sumK_swap_fd]
  apply sumK_map_congr_fd
  intro y hy
  rw [sumK_map_mul_right_fd]
  by_cases hT : (if y.agreeWith obs then massOf (g.assessP pd y targs) (F y) else 0) = 0
  · rw [hT, mul_zero]
  · have hobs : y.agreeWith obs = true := by
      by_contra hne
      exact hT (by rw [if_neg hne])
    rw [if_pos hobs] at hT
    -- exactly one choice map of the proposal, of non-zero mass, is a restriction of `y`
    obtain ⟨z0, hz0, hag0, hq0⟩ := hdom y hy hobs (pmassOf_ne_zero_of_massOf hT)
    rw [sumK_map_congr_fd Z _ (fun z => if z0 = z then (1 : K) else 0), sumK_ite_eq_fd Z hZnd z0 hz0,
      one_mul]
    intro z hzZ
    by_cases h : z0 = z
    · rw [← h, div_self hq0, if_pos hag0, if_pos rfl, one_mul]
    · cases hyz : y.agreeWith z with
      | false => rw [if_neg h, if_neg Bool.false_ne_true, mul_zero]
      | true => exact absurd (huniq y hy z hzZ z0 hz0 hyz hag0).symm h

/-- `proposal_properly_weighted` for `initParticleD`, `hmerge` discharged from `CM.disjB` -/
theorem init_proposal_properly_weighted (hpd : pd.WF) (hnorm : pd.Normalised) (g : GF)
    (hc : g.condOK = true) (hv : g.vmapOK cfg = true) (targs : List Val) (obs : CM) (q : GF)
    (hqn : q.noCollide = true) (hqc : q.condOK = true) (qargs : List Val)
    (Z : List CM) (hZnd : Z.Nodup)
    (hZcov : ∀ t, some t ∈ supp (q.simD pd P qargs) → ∃ z ∈ Z, t.choices = some z)
    (hZshape : ∀ z ∈ Z, q.skel = some z.skel)
    (ys : List CM) (hnd : ys.Nodup)
    (hcov : ∀ t, some t ∈ supp (g.simD pd P targs) → ∃ y ∈ ys, t.choices = some y)
    (hshape : ∀ y ∈ ys, g.skel = some y.skel)
    (hdisj : ∀ z ∈ Z, CM.disjB obs z = true)
    (huniq : ∀ y ∈ ys, ∀ z1 ∈ Z, ∀ z2 ∈ Z,
      y.agreeWith z1 = true → y.agreeWith z2 = true → z1 = z2)
    (hdom : ∀ y ∈ ys, y.agreeWith obs = true → pmassOf (g.assessP pd y targs) ≠ 0 →
      ∃ z ∈ Z, y.agreeWith z = true ∧ pmassOf (q.assessP pd z qargs) ≠ 0)
    (F : CM → Val → K) :
    E (initParticleD pd P cfg g targs obs (some (q, qargs))) (optK fun tw => tw.2 * obsF F tw.1)
      = sumK (ys.map fun y =>
          if y.agreeWith obs then massOf (g.assessP pd y targs) (F y) else 0) :=
  proposal_properly_weighted pd P cfg hpd hnorm true g hc hv targs obs q hqn hqc qargs Z hZnd
    hZcov hZshape ys hnd hcov hshape (hmerge_of_disjoint true obs Z ys hdisj) huniq hdom F

/-- the probability that `generate` under the constraint `ox` fills in the unconstrained sites so
    that the choice map is `y` (a factor of the weight formula of `Props/C10.lean`) -/
def fillProb (g : GF) (ox : Option CM) (args : List Val) (y : CM) : K :=
  E (g.generateD pd P cfg ox args) (optK fun tw => if tw.1.choices = some y then 1 else 0)

/-! ### the traces a particle can return -/

theorem generateD_choices_some (g : GF) (hc : g.condOK = true) (ox : Option CM) (args : List Val)
    (tw : Tr R × K) (h : some tw ∈ supp (g.generateD pd P cfg ox args)) :
    ∃ y, tw.1.choices = some y :=
  choices_of_skel (generateD_choices_skel pd P cfg g ox args tw h) (condOK_skel_gf g hc)

theorem proposalParticle_supp (cs : Bool) (g : GF) (targs : List Val)
    (obs : CM) (q : GF) (qargs : List Val) (tw : Tr R × K)
    (h : some tw ∈ supp (proposalParticleD pd P cfg cs g targs obs q qargs)) :
    ∃ m w, some (tw.1, w) ∈ supp (g.generateD pd P cfg (some m) targs) := by
  unfold proposalParticleD at h
  obtain ⟨pt, _, h2⟩ := mem_supp_bindO h
  split at h2
  · cases mem_supp_failO h2
  · unfold afterProposalD at h2
    split at h2
    · rename_i m _ _ _
      obtain ⟨tw', h3, h4⟩ := mem_supp_bindO h2
      cases mem_supp_pureO h4
      exact ⟨m, tw'.2, h3⟩
    · cases mem_supp_failO h2

end Law

/-! ## pipelines of GFI steps as instances of the particle system of `Proofs/Smc.lean` -/

section Pipeline
variable {K : Type} [Field K] {R : Type} [AddCommGroup R]
variable (pd : PD K) (P : Prims R) (cfg : Cfg)

theorem GfiStep.run_mass (hnorm : pd.Normalised) (st : GfiStep R) (prev : Option (Tr R)) :
    mass (st.run pd P cfg prev) = 1 := by
  unfold GfiStep.run
  split
  · exact generateD_mass pd P cfg hnorm _ _ _
  · unfold proposalParticleD
    refine mass_bindO _ _ (simD_mass pd P hnorm _ _) fun pt => ?_
    split
    · exact mass_failO
    · unfold afterProposalD
      split
      · exact mass_bindO _ _ (generateD_mass pd P cfg hnorm _ _ _) fun _ => mass_pureO _
      · exact mass_failO

theorem GfiStep.kernel_eq (st : GfiStep R) (x : Part K R)
    (hx : x ≠ .raised) :
    st.kernel pd P cfg x = (st.run pd P cfg x.trace?).map fun (o, p) => (Part.ofOutcome o, p) := by
  cases x with
  | raised => exact absurd rfl hx
  | start => rfl
  | live t w => rfl

theorem GfiStep.kernel_mass (hnorm : pd.Normalised) (st : GfiStep R) (x : Part K R) :
    mass (st.kernel pd P cfg x) = 1 := by
  by_cases hx : x = .raised
  · rw [hx]
    exact E_pure _ _
  · rw [st.kernel_eq pd P cfg x hx, mass_map_fst]
    exact st.run_mass pd P cfg hnorm _

theorem GfiStep.kernel_E (st : GfiStep R) (x : Part K R) (hx : x ≠ .raised) (ψ : Part K R → K) :
    E (st.kernel pd P cfg x) (fun x' => GfiStep.incrWeight x x' * ψ x')
      = E (st.run pd P cfg x.trace?) (optK fun tw => tw.2 * ψ (.live tw.1 tw.2)) := by
  rw [st.kernel_eq pd P cfg x hx, E_map_fst]
  congr 1
  funext o
  cases o with
  | none => exact zero_mul _
  | some tw => rfl

/-- one stage of a pipeline: `init`/`extend` step, adaptive-resampling trigger, rejuvenation kernel -/
structure GfiStage (K R : Type) where
  step : GfiStep R
  trigger : List K → Bool
  k : Part K R → FinDist K (Part K R)

def GfiStage.toStep (sg : GfiStage K R) : Step K (Part K R) where
  q := sg.step.kernel pd P cfg
  G := GfiStep.incrWeight
  trigger := sg.trigger
  k := sg.k

/-- `smc_unbiased` instantiated with the kernels and incremental weights that `init` / `extend`
    compute through the generative function interface (default or custom proposals) -/
theorem gfi_pipeline_unbiased (hnorm : pd.Normalised) (stages : List (GfiStage K R))
    (s : Sys K (Part K R)) (hN : (s.parts.length : K) ≠ 0)
    (hk : ∀ sg ∈ stages, ∀ x, mass (sg.k x) = 1)
    (htrig : ∀ sg ∈ stages, ∀ ws, sg.trigger ws = true → sumK ws ≠ 0) (φ : Part K R → K) :
    E (runSteps (stages.map (GfiStage.toStep pd P cfg)) s) (fun s' => s'.est φ)
      = s.est (pull (stages.map (GfiStage.toStep pd P cfg)) φ) := by
  apply smc_unbiased
  · exact hN
  · intro st hst x
    obtain ⟨sg, _, rfl⟩ := List.mem_map.mp hst
    exact sg.step.kernel_mass pd P cfg hnorm x
  · intro st hst x
    obtain ⟨sg, hsg, rfl⟩ := List.mem_map.mp hst
    exact hk sg hsg x
  · intro st hst ws h
    obtain ⟨sg, hsg, rfl⟩ := List.mem_map.mp hst
    exact htrig sg hsg ws h

/-! ### closed form for `rejuvenation_smc`-style pipelines -/

/-- what a stage may read from the particle's previous trace: its choice map and return value
    (`none` before `init`) -/
def prevInfo (t : Option (Tr R)) : Option (CM × Val) :=
  t.bind fun t => t.choices.map fun y => (y, t.retval)

/-- a stage of a `rejuvenation_smc`-style pipeline: the target's arguments (and the proposal's, if
    there is one) are functions of the observable previous trace - choice map and return value; the
    code feeds `particles.traces.get_retval()` to the target and `old_choices` to the proposal.
    `ys r` / `Z r` enumerate the complete choice maps of the target / the proposal at the arguments
    `r` leads to; any adaptive-resampling trigger, no rejuvenation move. -/
structure RvStage (K : Type) where
  target : GF
  argsOf : Option (CM × Val) → List Val
  obs : CM
  ys : Option (CM × Val) → List CM
  proposal : Option (GF × (Option (CM × Val) → List Val))
  Z : Option (CM × Val) → List CM
  constraintsSecond : Bool
  trigger : List K → Bool

def RvStage.toStage (rs : RvStage K) : GfiStage K R where
  step := { target := rs.target
            targs := fun prev => rs.argsOf (prevInfo prev)
            obs := rs.obs
            proposal := rs.proposal.map fun qa => (qa.1, fun prev => qa.2 (prevInfo prev))
            constraintsSecond := rs.constraintsSecond }
  trigger := rs.trigger
  k := FinDist.pure

/-- the unnormalised target the pipeline is an estimator of; with `φ = 1` the marginal likelihood
    of the whole observation sequence.  The proposals do not appear in it. -/
def rvTarget : List (RvStage K) → (Option (CM × Val) → K) → Option (CM × Val) → K
  | [], φ => φ
  | rs :: rest, φ => fun r =>
      sumK ((rs.ys r).map fun y =>
        if y.agreeWith rs.obs
        then massOf (rs.target.assessP pd y (rs.argsOf r)) (fun r' => rvTarget rest φ (some (y, r')))
        else 0)

/-- a raised particle has weight 0, so the value there never matters -/
def retvalTest (φ : Option (CM × Val) → K) (x : Part K R) : K := φ (prevInfo x.trace?)

/-- the hypotheses of `generateD_obs_sum` at every `r` and, if the stage has a custom proposal,
    those of `proposal_properly_weighted` -/
def RvStage.OK (rs : RvStage K) : Prop :=
  rs.target.condOK = true ∧ rs.target.vmapOK cfg = true ∧
  (∀ r, (rs.ys r).Nodup ∧
    (∀ t : Tr R, some t ∈ supp (rs.target.simD pd P (rs.argsOf r)) →
      ∃ y ∈ rs.ys r, t.choices = some y) ∧
    (∀ y ∈ rs.ys r, rs.target.skel = some y.skel)) ∧
  ∀ qa, rs.proposal = some qa →
    qa.1.noCollide = true ∧ qa.1.condOK = true ∧
    ∀ r, (rs.Z r).Nodup ∧
      (∀ t : Tr R, some t ∈ supp (qa.1.simD pd P (qa.2 r)) → ∃ z ∈ rs.Z r, t.choices = some z) ∧
      (∀ z ∈ rs.Z r, qa.1.skel = some z.skel) ∧
      (∀ z ∈ rs.Z r, ∃ m, smcMerge rs.constraintsSecond rs.obs z = some m ∧
        ∀ y ∈ rs.ys r, y.agreeWith m = (y.agreeWith rs.obs && y.agreeWith z)) ∧
      (∀ y ∈ rs.ys r, ∀ z1 ∈ rs.Z r, ∀ z2 ∈ rs.Z r,
        y.agreeWith z1 = true → y.agreeWith z2 = true → z1 = z2) ∧
      (∀ y ∈ rs.ys r, y.agreeWith rs.obs = true →
        pmassOf (rs.target.assessP pd y (rs.argsOf r)) ≠ 0 →
        ∃ z ∈ rs.Z r, y.agreeWith z = true ∧ pmassOf (qa.1.assessP pd z (qa.2 r)) ≠ 0)

theorem rvStage_run_E (hpd : pd.WF) (hnorm : pd.Normalised) (rs : RvStage K)
    (hok : rs.OK pd P cfg) (prev : Option (Tr R)) (F : CM → Val → K) :
    E ((rs.toStage (K := K) (R := R)).step.run pd P cfg prev) (optK fun tw => tw.2 * obsF F tw.1)
      = sumK ((rs.ys (prevInfo prev)).map fun y =>
          if y.agreeWith rs.obs
          then massOf (rs.target.assessP pd y (rs.argsOf (prevInfo prev))) (F y) else 0) := by
  obtain ⟨hc, hv, hys, hq⟩ := hok
  obtain ⟨hnd, hcov, hshape⟩ := hys (prevInfo prev)
  cases hp : rs.proposal with
  | none =>
    simp only [GfiStep.run, RvStage.toStage, hp, Option.map_none]
    exact generateD_obs_sum pd P cfg hpd hnorm rs.target hc hv rs.obs _ _ hnd hcov hshape F
  | some qa =>
    obtain ⟨hqn, hqc, hZ⟩ := hq qa hp
    obtain ⟨hZnd, hZcov, hZshape, hmerge, huniq, hdom⟩ := hZ (prevInfo prev)
    simp only [GfiStep.run, RvStage.toStage, hp, Option.map_some]
    exact proposal_properly_weighted pd P cfg hpd hnorm rs.constraintsSecond rs.target hc hv _
      rs.obs qa.1 hqn hqc _ _ hZnd hZcov hZshape _ hnd hcov hshape hmerge huniq hdom F

theorem rvStage_run_choices (rs : RvStage K) (hc : rs.target.condOK = true)
    (prev : Option (Tr R)) (tw : Tr R × K)
    (h : some tw ∈ supp ((rs.toStage (K := K) (R := R)).step.run pd P cfg prev)) :
    ∃ y, tw.1.choices = some y := by
  cases hp : rs.proposal with
  | none =>
    simp only [GfiStep.run, RvStage.toStage, hp, Option.map_none] at h
    exact generateD_choices_some pd P cfg rs.target hc _ _ tw h
  | some qa =>
    simp only [GfiStep.run, RvStage.toStage, hp, Option.map_some] at h
    obtain ⟨m, w, hmem⟩ := proposalParticle_supp pd P cfg _ _ _ _ _ _ tw h
    exact generateD_choices_some pd P cfg rs.target hc _ _ (tw.1, w) hmem

theorem pull_rvStages (hpd : pd.WF) (hnorm : pd.Normalised) (φ : Option (CM × Val) → K) :
    ∀ (stages : List (RvStage K)), (∀ rs ∈ stages, rs.OK pd P cfg) →
    ∀ x : Part K R, x ≠ .raised →
      pull (stages.map fun rs => (rs.toStage (R := R)).toStep pd P cfg) (retvalTest φ) x
        = rvTarget pd stages φ (prevInfo x.trace?)
  | [], _, x, _ => rfl
  | rs :: rest, hok, x, hx => by
    have hrs := hok rs List.mem_cons_self
    have ih := pull_rvStages hpd hnorm φ rest (fun rs' h => hok rs' (List.mem_cons_of_mem _ h))
    rw [List.map_cons, pull]
    show E ((rs.toStage (R := R)).step.kernel pd P cfg x) (fun x' => GfiStep.incrWeight x x'
      * E (FinDist.pure x') (pull (rest.map fun rs => (rs.toStage (R := R)).toStep pd P cfg)
          (retvalTest φ))) = _
    simp only [E_pure]
    rw [GfiStep.kernel_E pd P cfg _ x hx, rvTarget]
    rw [E_optK_congr _ _
      (fun tw => tw.2 * obsF (fun y r' => rvTarget pd rest φ (some (y, r'))) tw.1)]
    · exact rvStage_run_E pd P cfg hpd hnorm rs hrs x.trace? _
    · intro tw htw
      obtain ⟨y, hy⟩ := rvStage_run_choices pd P cfg rs hrs.1 x.trace? tw htw
      rw [obsF_of_choices _ hy, ih (.live tw.1 tw.2) (by simp)]
      simp only [Part.trace?, prevInfo, Option.bind_some, hy, Option.map_some]

def startSys (N : Nat) : Sys K (Part K R) := { parts := List.replicate N (.start, 1), acc := 1 }

omit [AddCommGroup R] in
theorem startSys_est (N : Nat) (hN : (N : K) ≠ 0) (f : Part K R → K) :
    (startSys (R := R) N).est f = f .start := by
  simp only [Sys.est, startSys, List.map_replicate, List.length_replicate, one_mul, sumK_replicate]
  exact mul_div_cancel_left₀ _ hN

/-- `rejuvenation_smc`-style pipelines are unbiased for the sequence model: after `init` and any
    number of `extend` steps, each followed by adaptive resampling with an arbitrary trigger,
    `E[acc · (1/N) Σ_i w_i φ(choices_i, retval_i)] = rvTarget stages φ none` -/
theorem gfi_sequence_unbiased (hpd : pd.WF) (hnorm : pd.Normalised)
    (stages : List (RvStage K)) (hok : ∀ rs ∈ stages, rs.OK pd P cfg) (N : Nat)
    (hN : (N : K) ≠ 0) (htrig : ∀ rs ∈ stages, ∀ ws, rs.trigger ws = true → sumK ws ≠ 0)
    (φ : Option (CM × Val) → K) :
    E (runSteps (stages.map fun rs => (rs.toStage (R := R)).toStep pd P cfg) (startSys N))
        (fun s' => s'.est (retvalTest φ))
      = rvTarget pd stages φ none := by
  have h := gfi_pipeline_unbiased pd P cfg hnorm (stages.map fun rs => rs.toStage (R := R))
    (startSys N) (by simpa [startSys] using hN)
    (by
      intro sg hsg x
      obtain ⟨rs, _, rfl⟩ := List.mem_map.mp hsg
      exact E_pure _ _)
    (by
      intro sg hsg ws hws
      obtain ⟨rs, hrs, rfl⟩ := List.mem_map.mp hsg
      exact htrig rs hrs ws hws)
    (retvalTest φ)
  rw [List.map_map] at h
  refine h.trans ?_
  rw [startSys_est N hN]
  exact pull_rvStages pd P cfg hpd hnorm φ stages hok .start (by simp)

end Pipeline

theorem forall_supp_of_allB {K : Type} {α : Type} (d : FinDist K (Option α)) (p : α → Bool)
    (h : (d.all fun op => match op.1 with | none => true | some a => p a) = true) :
    ∀ a, some a ∈ supp d → p a = true := by
  intro a ha
  simp only [supp, List.mem_map] at ha
  obtain ⟨op, hop, hop1⟩ := ha
  have := (List.all_eq_true.mp h) op hop
  rw [hop1] at this
  exact this

/-! ## instances for the non-vacuity examples of `Props/C10.lean` (primitives `lawExPD`) -/

section Instances

/-- target with two latents and one observed site:
    `a ~ coin(1/3); b ~ coin(1/4 + a/2); y ~ coin(1/8 + a/2 + b/4); return a + b` (no arguments) -/
def initExTarget : GF :=
  .fn (.call "a" (.dist 0) [.const (1/3)]
      (.call "b" (.dist 0) [.add (.const (1/4)) (.mul (.var 0) (.const (1/2)))]
        (.call "y" (.dist 0)
            [.add (.const (1/8)) (.add (.mul (.var 0) (.const (1/2))) (.mul (.var 1) (.const (1/4))))]
          (.ret (.add (.var 0) (.var 1))))))

/-- the constraint `{y: 1}` -/
def initExObs : CM := .node (.cons "y" (.leaf (.num 1)) .nil)

/-- proposal for `a` only (a strict subset of the latents): `a ~ coin(3/5)` -/
def initExQa : GF := .fn (.call "a" (.dist 0) [.const (3/5)] (.ret (.var 0)))

/-- proposal for `b` only (the latent that depends on the other one): `b ~ coin(2/5)` -/
def initExQb : GF := .fn (.call "b" (.dist 0) [.const (2/5)] (.ret (.var 0)))

/-- proposal for both latents: `a ~ coin(3/5); b ~ coin(1/2 + a/4)` -/
def initExQab : GF :=
  .fn (.call "a" (.dist 0) [.const (3/5)]
      (.call "b" (.dist 0) [.add (.const (1/2)) (.mul (.var 0) (.const (1/4)))] (.ret (.var 0))))

def initExY (a b y : Rat) : CM :=
  .node (.cons "a" (.leaf (.num a)) (.cons "b" (.leaf (.num b)) (.cons "y" (.leaf (.num y)) .nil)))

def initExYs : List CM :=
  [initExY 0 0 0, initExY 0 0 1, initExY 0 1 0, initExY 0 1 1,
   initExY 1 0 0, initExY 1 0 1, initExY 1 1 0, initExY 1 1 1]

def initExZa : List CM :=
  [.node (.cons "a" (.leaf (.num 0)) .nil), .node (.cons "a" (.leaf (.num 1)) .nil)]
def initExZb : List CM :=
  [.node (.cons "b" (.leaf (.num 0)) .nil), .node (.cons "b" (.leaf (.num 1)) .nil)]
def initExZab : List CM :=
  [.node (.cons "a" (.leaf (.num 0)) (.cons "b" (.leaf (.num 0)) .nil)),
   .node (.cons "a" (.leaf (.num 0)) (.cons "b" (.leaf (.num 1)) .nil)),
   .node (.cons "a" (.leaf (.num 1)) (.cons "b" (.leaf (.num 0)) .nil)),
   .node (.cons "a" (.leaf (.num 1)) (.cons "b" (.leaf (.num 1)) .nil))]

/-- also proposes the observed address `y` -/
def initExQay : GF :=
  .fn (.call "a" (.dist 0) [.const (3/5)] (.call "y" (.dist 0) [.const (1/2)] (.ret (.var 0))))

/-- does not dominate the target: `a ~ coin(1)` never proposes `a = 0` -/
def initExQa1 : GF := .fn (.call "a" (.dist 0) [.const 1] (.ret (.var 0)))

/-- one time step of a state-space model, argument = previous state:
    `x ~ coin(1/4 + prev/2); y ~ coin(1/8 + x/2); return x` -/
def seqExStep : GF :=
  .fn (.call "x" (.dist 0) [.add (.const (1/4)) (.mul (.var 0) (.const (1/2)))]
      (.call "y" (.dist 0) [.add (.const (1/8)) (.mul (.var 1) (.const (1/2)))] (.ret (.var 1))))

def seqExY (x y : Rat) : CM :=
  .node (.cons "x" (.leaf (.num x)) (.cons "y" (.leaf (.num y)) .nil))

def seqExYs : List CM := [seqExY 0 0, seqExY 0 1, seqExY 1 0, seqExY 1 1]

/-- a stage of the sequence model observing `y = o`; resampling when the total weight is non-zero
    and below `1/2` -/
def seqExStage (o : Rat) : RvStage Rat where
  target := seqExStep
  argsOf := fun r => [(r.map (·.2)).getD (.num 0)]
  obs := .node (.cons "y" (.leaf (.num o)) .nil)
  ys := fun _ => seqExYs
  proposal := none
  Z := fun _ => []
  constraintsSecond := true
  trigger := fun ws => decide (sumK ws ≠ 0) && decide (sumK ws < 1/2)

/-- proposal of the sequence model for the latent `x`: `x ~ coin(3/5)` -/
def seqExQ : GF := .fn (.call "x" (.dist 0) [.const (3/5)] (.ret (.var 0)))

def seqExZ : List CM :=
  [.node (.cons "x" (.leaf (.num 0)) .nil), .node (.cons "x" (.leaf (.num 1)) .nil)]

/-- the stage with the custom extension proposal `seqExQ` (merge order of `extend`) -/
def seqExStageQ (o : Rat) : RvStage Rat where
  target := seqExStep
  argsOf := fun r => [(r.map (·.2)).getD (.num 0)]
  obs := .node (.cons "y" (.leaf (.num o)) .nil)
  ys := fun _ => seqExYs
  proposal := some (seqExQ, fun _ => [])
  Z := fun _ => seqExZ
  constraintsSecond := false
  trigger := fun ws => decide (sumK ws ≠ 0) && decide (sumK ws < 1/2)

end Instances

end Genjax.Smc

import GenjaxModel.Model.GfiRegenDist
import GenjaxModel.Proofs.GfiDistMonad
import GenjaxModel.Proofs.GfiAssess
import Mathlib.Algebra.Order.Field.Basic
import Mathlib.Algebra.Field.Rat
import Mathlib.Algebra.Group.Int.Defs
/-!
  `GF.assessS`, the density `assessP` split along a selection into the product of the masses of the
  selected sites and the product of the masses of the unselected sites:
  it multiplies back to `assessP` (`assessP_eq_assessS`), both products are non-negative when the
  primitive masses are (`assessS_nonneg`), and on a Cond-free program a coherent trace `t` with
  choice map `x` is accepted with the trace's return value, the unselected product being (when
  non-zero) the reciprocal of `GF.unselE e t s` (`coh_assessS`).
-/
namespace Genjax

section Split
variable {K : Type} [Field K] (pd : PD K)

theorem prodK_map_mul {α : Type} (f g : α → K) (l : List α) :
    prodK (l.map fun o => f o * g o) = prodK (l.map f) * prodK (l.map g) := by
  induction l with
  | nil => exact (mul_one _).symm
  | cons a l ih => exact (congrArg (f a * g a * ·) ih).trans (mul_mul_mul_comm _ _ _ _)

theorem prodK_map_mul_fst (rs : List ((K × K) × Val)) (G : List Val → Val) :
    (prodK ((rs.map fun o => (o.1.1 * o.1.2, o.2)).map (·.1)),
        G ((rs.map fun o => (o.1.1 * o.1.2, o.2)).map (·.2)))
      = (prodK (rs.map (·.1.1)) * prodK (rs.map (·.1.2)), G (rs.map (·.2))) := by
  rw [List.map_map, List.map_map, ← prodK_map_mul]
  rfl

theorem assessP_split_aux :
    (∀ (g : GF) (x : CM) (s : Sel) (args : List Val),
      g.assessP pd x args = (g.assessS pd x s args).map fun o => (o.1.1 * o.1.2, o.2)) ∧
    ∀ (b : Body) (x : CML) (s : Sel) (env : List Val) (seen : List String),
      b.assessP pd x env seen = (b.assessS pd x s env seen).map fun o => (o.1.1 * o.1.2, o.2) := by
  refine GF.rec_both ?_ ?_ ?_ ?_ ?_ ?_ ?_
  · intro d x s args
    cases x with
    | leaf v =>
      dsimp only [GF.assessP, GF.assessS]
      cases s.leaf
      · exact congrArg (fun k => some (k, v)) (one_mul _).symm
      · exact congrArg (fun k => some (k, v)) (mul_one _).symm
    | _ => rfl
  · intro body ih x s args
    cases x with
    | node X => exact ih X s args []
    | _ => rfl
  · intro g axes n ih x s args
    cases x with
    | lanes l =>
      dsimp only [GF.assessP, GF.assessS]
      rw [funext fun i => funext fun xi => ih xi s (laneArgs axes args i), forLanes_map]
      refine Option.bind_congr_map fun _ => Option.map_bind_map fun rs => ?_
      exact congrArg some (prodK_map_mul_fst rs Val.ofList)
    | _ => rfl
  · intro g n ih x s args
    cases x with
    | lanes l =>
      dsimp only [GF.assessP, GF.assessS]
      simp only [ih _ s, Option.bind_eq_bind, Option.pure_def,
        scanStep_map _ fun q : K × K => q.1 * q.2,
        forSteps_map _ fun q : (K × K) × Val => (q.1.1 * q.1.2, q.2)]
      refine Option.bind_congr_map fun _ => Option.map_bind_map fun r => ?_
      exact congrArg some (prodK_map_mul_fst r.1 fun vs => Val.pair r.2 (Val.ofList vs))
    | _ => rfl
  · intro t f iht ihf x s args
    refine (congrArg (Option.bind · _) (iht x s _)).trans (Option.map_bind_map fun p => ?_)
    refine (congrArg (Option.bind · _) (ihf x s _)).trans (Option.map_bind_map fun q => ?_)
    cases (args.getD 0 .nil).truthy <;> rfl
  · intro ex x s env seen
    exact congrArg (fun k => some (k, _)) (mul_one 1).symm
  · intro addr g es rest ihg ihr x s env seen
    dsimp only [Body.assessP, Body.assessS]
    refine (congrArg (ite _ none) ?_).trans (apply_ite (Option.map _) _ none _).symm
    cases x.find? addr with
    | none => rfl
    | some sub =>
      refine (congrArg (Option.bind · _) (ihg sub (s.matchAddr addr).2 _)).trans
        (Option.map_bind_map fun p => ?_)
      refine (congrArg (Option.bind · _) (ihr x s _ _)).trans (Option.map_bind_map fun q => ?_)
      exact congrArg (fun k => some (k, _)) (mul_mul_mul_comm _ _ _ _)

theorem assessP_eq_assessS (g : GF) (x : CM) (s : Sel) (args : List Val) :
    g.assessP pd x args = (g.assessS pd x s args).map fun o => (o.1.1 * o.1.2, o.2) :=
  (assessP_split_aux pd).1 g x s args

theorem Body.assessP_eq_assessS (b : Body) (x : CML) (s : Sel) (env : List Val)
    (seen : List String) :
    b.assessP pd x env seen = (b.assessS pd x s env seen).map fun o => (o.1.1 * o.1.2, o.2) :=
  (assessP_split_aux pd).2 b x s env seen

end Split

/-! ## `eqOff` is symmetric -/

theorem eqOff_symm_aux :
    (∀ (x : CM) (s : Sel) (y : CM), CM.eqOff s x y = CM.eqOff s y x) ∧
    ∀ (x : CML) (s : Sel) (y : CML), CML.eqOffKeys s x y = CML.eqOffKeys s y x ∧
      CML.eqOffPos s x y = CML.eqOffPos s y x := by
  refine CM.rec_both ?_ ?_ ?_ ?_ ?_
  · intro v s y
    cases y with
    | leaf v' => exact congrArg (s.leaf || ·) (decide_eq_decide.mpr eq_comm)
    | _ => rfl
  · intro a ih s y
    cases y with
    | node b => exact (ih s b).1
    | _ => rfl
  · intro a ih s y
    cases y with
    | lanes b => exact (ih s b).2
    | _ => rfl
  · exact fun s y => by cases y <;> exact ⟨rfl, rfl⟩
  · intro k v r ihv ihr s y
    cases y with
    | nil => exact ⟨rfl, rfl⟩
    | cons k' v' r' =>
      refine ⟨?_, ?_⟩
      · simp only [CML.eqOffKeys]
        by_cases h : k = k'
        · subst h
          rw [ihv, (ihr s r').1]
        · simp only [h, Ne.symm h, decide_false, Bool.false_and]
      · simp only [CML.eqOffPos]
        rw [ihv, (ihr s r').2]

theorem CM.eqOff_symm (s : Sel) (x y : CM) : CM.eqOff s x y = CM.eqOff s y x :=
  eqOff_symm_aux.1 x s y

theorem CML.eqOffKeys_symm : ∀ (s : Sel) (x y : CML), CML.eqOffKeys s x y = CML.eqOffKeys s y x :=
  fun s x y => (eqOff_symm_aux.2 x s y).1

theorem CML.eqOffPos_symm : ∀ (s : Sel) (x y : CML), CML.eqOffPos s x y = CML.eqOffPos s y x :=
  fun s x y => (eqOff_symm_aux.2 x s y).2

/-! ## both products are non-negative -/

section Nonneg
variable {K : Type} [Field K] [LinearOrder K] [IsStrictOrderedRing K]

theorem prodK_map_nonneg {β : Type} (f : β → K) (l : List β) (h : ∀ b ∈ l, 0 ≤ f b) :
    0 ≤ prodK (l.map f) := by
  induction l with
  | nil => exact zero_le_one
  | cons b l ih =>
    exact mul_nonneg (h b List.mem_cons_self) (ih fun c hc => h c (List.mem_cons_of_mem _ hc))

variable (pd : PD K) (hpos : ∀ d a v, 0 ≤ pd.pm d a v)

include hpos in
theorem assessS_nonneg_aux : (∀ g : GF, ∀ (x : CM) (s : Sel) (args : List Val) (o : (K × K) × Val),
    g.assessS pd x s args = some o → 0 ≤ o.1.1 ∧ 0 ≤ o.1.2) ∧
    ∀ b : Body, ∀ (x : CML) (s : Sel) (env : List Val)
    (seen : List String) (o : (K × K) × Val),
    b.assessS pd x s env seen = some o → 0 ≤ o.1.1 ∧ 0 ≤ o.1.2 := by
  apply GF.rec_both
  case dist =>
    intro d x s args o h
    cases x with
    | leaf v =>
      cases Option.some.inj h
      cases s.leaf
      · exact ⟨zero_le_one, hpos _ _ _⟩
      · exact ⟨hpos _ _ _, zero_le_one⟩
    | _ => cases h
  case fn =>
    intro body ih x s args o h
    cases x with
    | node X => exact ih X s args [] o h
    | _ => cases h
  case vmap =>
    intro g axes n ih x s args o h
    cases x with
    | lanes l =>
      unfold GF.assessS at h
      simp only [Option.bind_eq_bind, Option.bind_eq_some_iff, Option.pure_def,
        Option.some.injEq] at h
      obtain ⟨_, _, rs, hrs, rfl⟩ := h
      have hall := forLanes_forall (Q := fun b : (K × K) × Val => 0 ≤ b.1.1 ∧ 0 ≤ b.1.2)
        (fun i xi b hb => ih xi s (laneArgs axes args i) b hb) hrs
      exact ⟨prodK_map_nonneg _ _ fun b hb => (hall b hb).1,
        prodK_map_nonneg _ _ fun b hb => (hall b hb).2⟩
    | _ => cases h
  case scan =>
    intro g n ih x s args o h
    cases x with
    | lanes l =>
      unfold GF.assessS at h
      simp only [Option.bind_eq_bind, Option.bind_eq_some_iff, Option.pure_def,
        Option.some.injEq] at h
      obtain ⟨_, _, ⟨rs, c⟩, hrs, rfl⟩ := h
      have hall := forSteps_forall (Q := fun b : (K × K) × Val => 0 ≤ b.1.1 ∧ 0 ≤ b.1.2)
        (fun c i xi b c' hb => by
          simp only [Option.bind_eq_some_iff, Option.some.injEq, Prod.mk.injEq] at hb
          obtain ⟨o, ho, rfl, _⟩ := hb
          exact ih xi s _ o ho) hrs
      exact ⟨prodK_map_nonneg _ _ fun b hb => (hall b hb).1,
        prodK_map_nonneg _ _ fun b hb => (hall b hb).2⟩
    | _ => cases h
  case cond =>
    intro t f iht ihf x s args o h
    unfold GF.assessS at h
    simp only [Option.bind_eq_bind, Option.bind_eq_some_iff, Option.pure_def,
      Option.some.injEq] at h
    obtain ⟨o1, h1, o2, h2, rfl⟩ := h
    split
    · exact iht _ _ _ _ h1
    · exact ihf _ _ _ _ h2
  case ret =>
    intro ex x s env seen o h
    cases Option.some.inj h
    exact ⟨zero_le_one, zero_le_one⟩
  case call =>
    intro addr g es rest ihg ihr x s env seen o h
    unfold Body.assessS at h
    split at h
    · cases h
    · split at h
      · cases h
      · simp only [Option.bind_eq_bind, Option.bind_eq_some_iff, Option.pure_def,
          Option.some.injEq] at h
        obtain ⟨o1, h1, o2, h2, rfl⟩ := h
        have a1 := ihg _ _ _ _ h1
        have a2 := ihr _ _ _ _ _ h2
        exact ⟨mul_nonneg a1.1 a2.1, mul_nonneg a1.2 a2.2⟩

include hpos in
theorem assessS_nonneg (g : GF) (x : CM) (s : Sel) (args : List Val) (o : (K × K) × Val)
    (h : g.assessS pd x s args = some o) : 0 ≤ o.1.1 ∧ 0 ≤ o.1.2 :=
  (assessS_nonneg_aux pd hpos).1 g x s args o h

include hpos in
theorem assessS_nonneg_body : (b : Body) → ∀ (x : CML) (s : Sel) (env : List Val)
      (seen : List String) (o : (K × K) × Val),
      b.assessS pd x s env seen = some o → 0 ≤ o.1.1 ∧ 0 ≤ o.1.2 :=
  (assessS_nonneg_aux pd hpos).2

end Nonneg

/-! ## coherent traces -/

theorem Body.seen_step {addr : String} {g : GF} {es : List Expr} {rest : Body} {seen : List String}
    (hnot : addr ∉ rest.addrs) (hseen : ∀ a ∈ (Body.call addr g es rest).addrs, a ∉ seen) :
    seen.contains addr = false ∧ ∀ a ∈ rest.addrs, a ∉ addr :: seen := by
  refine ⟨by simpa using hseen addr List.mem_cons_self, fun a ha hm => ?_⟩
  exact (List.mem_cons.mp hm).elim (fun e => hnot (e ▸ ha)) (hseen a (List.mem_cons_of_mem _ ha))

section Coh
variable {K : Type} [Field K] {R : Type}

theorem mul_recip {U1 U2 B1 B2 : K} (h1 : B1 ≠ 0 → U1 * B1 = 1) (h2 : B2 ≠ 0 → U2 * B2 = 1)
    (h : B1 * B2 ≠ 0) : (U1 * U2) * (B1 * B2) = 1 := by
  obtain ⟨hb1, hb2⟩ := mul_ne_zero_iff.mp h
  rw [mul_mul_mul_comm, h1 hb1, h2 hb2, mul_one]

theorem lanes_assessS (coh : List Val → Tr R → Prop) (axes : List Bool) (args : List Val)
    (U : Tr R → K) (f : Nat → CM → Option ((K × K) × Val))
    (hf : ∀ i t c, coh (laneArgs axes args i) t → t.choices = some c →
      ∃ A B : K, f i c = some ((A, B), t.retval) ∧ (B ≠ 0 → U t * B = 1)) :
    ∀ {ts : List (Tr R)} {xs : List CM} (i : Nat),
      List.Forall₂ (fun t c => t.choices = some c) ts xs →
      lanesCoh coh axes args i ts →
      ∃ rs, forLanes f i xs = some rs ∧ rs.map (·.2) = ts.map Tr.retval ∧
        (prodK (rs.map (·.1.2)) ≠ 0 → prodK (ts.map U) * prodK (rs.map (·.1.2)) = 1) := by
  intro ts xs i h
  induction h generalizing i with
  | nil => exact fun _ => ⟨[], rfl, rfl, fun _ => one_mul 1⟩
  | @cons t c ts xs h1 _ ih =>
    intro hc
    obtain ⟨A, B, hAB, hB⟩ := hf i t c hc.1 h1
    obtain ⟨rs, hrs, hret, hprod⟩ := ih (i + 1) hc.2
    exact ⟨_, forLanes_cons.mpr ⟨_, rs, hAB, hrs, rfl⟩, congrArg (t.retval :: ·) hret,
      mul_recip hB hprod⟩

theorem steps_assessS (coh : List Val → Tr R → Prop) (xsv : Val)
    (U : Tr R → K) (f : Val → Nat → CM → Option (((K × K) × Val) × Val))
    (hf : ∀ c i t x, coh [c, xsv.nth i] t → t.choices = some x →
      ∃ A B : K, f c i x = some (((A, B), t.retval.snd), t.retval.fst) ∧ (B ≠ 0 → U t * B = 1)) :
    ∀ {ts : List (Tr R)} {xs : List CM} (c : Val) (i : Nat) (c' : Val),
      List.Forall₂ (fun t c => t.choices = some c) ts xs →
      stepsCoh coh xsv c i ts c' →
      ∃ rs, forSteps f c i xs = some (rs, c') ∧
        rs.map (·.2) = ts.map (fun t => t.retval.snd) ∧
        (prodK (rs.map (·.1.2)) ≠ 0 → prodK (ts.map U) * prodK (rs.map (·.1.2)) = 1) := by
  intro ts xs c i c' h
  induction h generalizing c i with
  | nil =>
    intro hc
    cases hc
    exact ⟨[], rfl, rfl, fun _ => one_mul 1⟩
  | @cons t x ts xs h1 _ ih =>
    intro hc
    obtain ⟨A, B, hAB, hB⟩ := hf c i t x hc.1 h1
    obtain ⟨rs, hrs, hret, hprod⟩ := ih _ (i + 1) hc.2
    exact ⟨_, forSteps_cons.mpr ⟨_, _, rs, hAB, hrs, rfl⟩, congrArg (t.retval.snd :: ·) hret,
      mul_recip hB hprod⟩

end Coh

variable {K : Type} [Field K] {R : Type} [AddCommGroup R] (e : R → K) (pd : PD K) (P : Prims R)
variable (hinv : ∀ d a v, pd.pm d a v ≠ 0 → e (-(P.lp d a v)) * pd.pm d a v = 1)
include hinv

theorem coh_assessS_aux : (∀ g : GF, g.condFree = true →
    ∀ (args : List Val) (t : Tr R) (x : CM) (s : Sel), g.Coh P args t → t.choices = some x →
    ∃ A B : K, g.assessS pd x s args = some ((A, B), t.retval) ∧
      (B ≠ 0 → g.unselE e t s * B = 1)) ∧
    ∀ b : Body, b.condFree = true →
    ∀ (env : List Val) (subs : TrL R) (xl : CML) (seen : List String) (s : Sel),
    b.Coh P env subs → subs.choices = some xl → (∀ a ∈ b.addrs, a ∉ seen) →
    ∃ A B : K, b.assessS pd xl s env seen = some ((A, B), b.retOf env subs) ∧
      (B ≠ 0 → b.unselE e subs s * B = 1) := by
  apply GF.rec_both
  case dist =>
    intro d _ args t x s h hx
    cases t with
    | leaf v sOld =>
      cases Option.some.inj hx
      cases (h : sOld = _)
      unfold GF.assessS GF.unselE
      cases s.leaf
      · exact ⟨1, pd.pm d args v, rfl, hinv d args v⟩
      · exact ⟨pd.pm d args v, 1, rfl, fun _ => mul_one _⟩
    | _ => exact h.elim
  case fn =>
    intro body ih hg args t x s h hx
    cases t with
    | fn subs r sc =>
      obtain ⟨hb, rfl, rfl⟩ := h
      obtain ⟨xl, hxl, rfl⟩ := Option.map_eq_some_iff.mp hx
      exact ih hg args subs xl [] s hb hxl (fun _ _ h => nomatch h)
    | _ => exact h.elim
  case vmap =>
    intro g axes n ih hg args t x s h hx
    cases t with
    | vec lanes =>
      obtain ⟨hlen, hl⟩ := h
      obtain ⟨xl, hxl, rfl⟩ := Option.map_eq_some_iff.mp hx
      have hF := TrL.choices_toList lanes xl hxl
      obtain ⟨rs, hrs, hret, hprod⟩ := lanes_assessS (fun a t => g.Coh P a t) axes args
        (fun t => g.unselE e t s) (fun i xi => g.assessS pd xi s (laneArgs axes args i))
        (fun i t c hc hch => ih hg _ t c s hc hch) 0 hF hl
      refine ⟨prodK (rs.map (·.1.1)), prodK (rs.map (·.1.2)), ?_, hprod⟩
      dsimp only [GF.assessS]
      rw [(lenIs_eq_some_iff (u := ())).mpr (hF.length_eq.symm.trans hlen), hrs]
      exact congrArg (fun v => some (_, v))
        ((congrArg Val.ofList hret).trans (TrL.retvals_eq lanes).symm)
    | _ => exact h.elim
  case scan =>
    intro g n ih hg args t x s h hx
    cases t with
    | scan steps c =>
      obtain ⟨hlen, hl⟩ := h
      obtain ⟨xl, hxl, rfl⟩ := Option.map_eq_some_iff.mp hx
      have hF := TrL.choices_toList steps xl hxl
      obtain ⟨rs, hrs, hret, hprod⟩ := steps_assessS (fun a t => g.Coh P a t) (args.getD 1 .nil)
        (fun t => g.unselE e t s)
        (fun c i xi => (g.assessS pd xi s [c, (args.getD 1 .nil).nth i]).bind fun o =>
          some ((o.1, o.2.snd), o.2.fst))
        (fun c i t x hc hch => by
          obtain ⟨A, B, hAB, hB⟩ := ih hg _ t x s hc hch
          exact ⟨A, B, congrArg (Option.bind · _) hAB, hB⟩) _ 0 c hF hl
      refine ⟨prodK (rs.map (·.1.1)), prodK (rs.map (·.1.2)), ?_, hprod⟩
      dsimp only [GF.assessS]
      rw [(lenIs_eq_some_iff (u := ())).mpr (hF.length_eq.symm.trans hlen), hrs]
      exact congrArg (fun v => some (_, Val.pair c v))
        ((congrArg Val.ofList hret).trans
          ((TrL.outs_eq steps).trans (congrArg Val.ofList List.map_map)).symm)
    | _ => exact h.elim
  case cond => exact fun _ _ _ _ hg => nomatch hg
  case ret => exact fun ex _ env subs xl seen s _ _ _ => ⟨1, 1, rfl, fun _ => mul_one _⟩
  case call =>
    intro addr g es rest ihg ihr hb env subs xl seen s h hx hseen
    obtain ⟨hnot, t, hft, hgc, hrc⟩ := h
    simp only [Body.condFree, Bool.and_eq_true] at hb
    obtain ⟨c, hc, hfc⟩ := TrL.choices_find subs xl hx addr t hft
    obtain ⟨A1, B1, h1, hB1⟩ := ihg hb.1 _ t c (s.matchAddr addr).2 hgc hc
    obtain ⟨h3, hseen'⟩ := Body.seen_step hnot hseen
    obtain ⟨A2, B2, h2, hB2⟩ :=
      ihr hb.2 (env ++ [t.retval]) subs xl (addr :: seen) s hrc hx hseen'
    refine ⟨A1 * A2, B1 * B2, ?_, ?_⟩
    · dsimp only [Body.assessS, Body.retOf]
      rw [h3, if_neg Bool.false_ne_true, hfc, hft]
      exact (congrArg (Option.bind · _) h1).trans (congrArg (Option.bind · _) h2)
    · dsimp only [Body.unselE]
      rw [hft]
      exact mul_recip hB1 hB2

theorem coh_assessS (g : GF) (hg : g.condFree = true) (args : List Val) (t : Tr R) (x : CM) (s : Sel)
    (h : g.Coh P args t) (hx : t.choices = some x) :
    ∃ A B : K, g.assessS pd x s args = some ((A, B), t.retval) ∧ (B ≠ 0 → g.unselE e t s * B = 1) :=
  (coh_assessS_aux e pd P hinv).1 g hg args t x s h hx

theorem coh_assessS_body : (b : Body) → b.condFree = true →
      ∀ (env : List Val) (subs : TrL R) (xl : CML) (seen : List String) (s : Sel),
      b.Coh P env subs → subs.choices = some xl → (∀ a ∈ b.addrs, a ∉ seen) →
      ∃ A B : K, b.assessS pd xl s env seen = some ((A, B), b.retOf env subs) ∧
        (B ≠ 0 → b.unselE e subs s * B = 1) :=
  (coh_assessS_aux e pd P hinv).2

omit hinv in
/-- non-vacuity of the hypotheses of `coh_assessS`: one call site holding a Distribution of mass 1/2,
    log density -1 read back by `e 1 = 2`, nothing selected -/
example :
    let P : Prims ℤ := ⟨fun _ _ _ => -1, fun _ _ => .nil⟩
    let pd : PD ℚ := ⟨fun _ _ => [.nil], fun _ _ _ => 1 / 2⟩
    let e : ℤ → ℚ := fun r => if r = 1 then 2 else 1
    let g : GF := .fn (.call "a" (.dist 0) [] (.ret (.var 0)))
    let t : Tr ℤ := .fn (.cons "a" (.leaf (.num 3) 1) .nil) (.num 3) (1 + 0)
    (∀ d a v, pd.pm d a v ≠ 0 → e (-(P.lp d a v)) * pd.pm d a v = 1) ∧
      g.condFree = true ∧ g.Coh P [] t ∧ t.choices = some (.node (.cons "a" (.leaf (.num 3)) .nil)) ∧
      g.assessS pd (.node (.cons "a" (.leaf (.num 3)) .nil)) .none [] = some ((1 * 1, 1 / 2 * 1), .num 3) ∧
      g.unselE e t .none = 2 * 1 := by
  exact ⟨fun d a v _ => by norm_num, rfl,
    ⟨And.intro (fun h => nomatch h) ⟨Tr.leaf (.num 3) 1, rfl, (neg_neg (1 : ℤ)).symm, trivial⟩, rfl, rfl⟩,
    rfl, rfl, rfl⟩

end Genjax

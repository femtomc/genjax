import GenjaxModel.Model.McmcKernels
import GenjaxModel.Proofs.Mcmc
/-!
  C09, kernels: what the sums in the log acceptance ratios of `mala` and `hmc`
  (`Model/McmcKernels.lean`) amount to.  The two-level sum over the leaves is the plain sum; a sum of
  Gaussian log densities with a common scale is a squared distance plus `n` times the normaliser, so
  the proposal log density of `mala` is the Langevin exponent and the momentum score of `hmc` the
  kinetic energy, each up to `n·c`; `hmc`'s log alpha is the drop in the Hamiltonian.
-/
namespace Genjax.Mcmc

set_option linter.unusedSectionVars false

variable {K : Type} [Field K] [LinearOrder K] [IsStrictOrderedRing K]

/-! ### sums -/

@[simp] theorem vsum_nil : vsum ([] : List K) = 0 := rfl
@[simp] theorem vsum_cons (a : K) (l : List K) : vsum (a :: l) = a + vsum l := rfl

theorem vsum_append (a b : List K) : vsum (a ++ b) = vsum a + vsum b := by
  induction a with
  | nil => rw [List.nil_append, vsum_nil, zero_add]
  | cons x xs ih => rw [List.cons_append, vsum_cons, vsum_cons, ih, add_assoc]

/-- `treeSum`: the two-level sum of the code (per leaf, then over leaves) -/
theorem treeSum_eq_vsum (shape : List Nat) (v : List K) (h : shape.sum = v.length) :
    treeSum shape v = vsum v := by
  unfold treeSum
  induction shape generalizing v with
  | nil => rw [List.eq_nil_of_length_eq_zero h.symm]; rfl
  | cons n ns ih =>
    have h' : ns.sum = (v.drop n).length := by
      rw [List.length_drop, ← h, List.sum_cons, Nat.add_sub_cancel_left]
    rw [leaves, List.map_cons, vsum_cons, ih _ h', ← vsum_append, List.take_append_drop]

def sqDist (a b : List K) : K := vsum (List.zipWith (fun x y => (x - y) * (x - y)) a b)

def sqNorm (p : List K) : K := vsum (p.map (fun a => a * a))

/-- the density as TFP writes it, over a common denominator; an identity of field terms (with
    `x / 0 = 0`), so no side condition on `sigma` -/
theorem normalLogpdf_eq (c sigma x mu : K) :
    normalLogpdf c sigma x mu = -((x - mu) * (x - mu)) / (2 * sigma * sigma) - c := by
  unfold normalLogpdf
  ring

theorem vsum_normalLogpdf (c sigma : K) (y m : List K) (h : y.length = m.length) :
    vsum (List.zipWith (fun a b => normalLogpdf c sigma a b) y m)
      = -(sqDist y m) / (2 * sigma * sigma) - (y.length : K) * c := by
  induction y generalizing m with
  | nil => simp [sqDist]
  | cons a as ih =>
    cases m with
    | nil => cases h
    | cons b bs =>
      simp only [sqDist, List.zipWith_cons_cons, vsum_cons, List.length_cons, Nat.cast_succ,
        normalLogpdf_eq] at ih ⊢
      rw [ih bs (Nat.succ.inj h)]
      ring

theorem vsum_normalLogpdf_std (c : K) (p : List K) :
    vsum (p.map (fun a => normalLogpdf c 1 a 0)) = -(sqNorm p) / 2 - (p.length : K) * c := by
  induction p with
  | nil => simp [sqNorm]
  | cons a as ih =>
    simp only [sqNorm, List.map_cons, vsum_cons, List.length_cons, Nat.cast_succ,
      normalLogpdf_eq] at ih ⊢
    rw [ih]
    ring

theorem sqNorm_vneg (p : List K) : sqNorm (vneg p) = sqNorm p := by
  unfold sqNorm vneg
  rw [List.map_map]
  exact congrArg vsum (List.map_congr_left fun a _ => neg_mul_neg a a)

/-! ### MALA -/

/-- the Langevin kernel q(y | x) in unnormalised exponent form: −|y − x − (ε²/2)·g|² / (2ε²) -/
def langevinLogQ (eps : K) (x g y : List K) : K :=
  -(sqDist y (langevinMean eps x g)) / (2 * eps * eps)

theorem length_malaPropose {d : Nat} (eps : K) {x g z : List K} (hx : x.length = d)
    (hg : g.length = d) (hz : z.length = d) : (malaPropose eps x g z).length = d :=
  length_vadd_eq (length_vadd_eq hx ((length_smul _ _).trans hg)) ((length_smul _ _).trans hz)

theorem malaLogProb_eq (c eps : K) (shape : List Nat) (cur prop g : List K)
    (hp : prop.length = cur.length) (hg : g.length = cur.length) (hs : shape.sum = cur.length) :
    malaLogProb c eps shape cur prop g = langevinLogQ eps cur g prop - (cur.length : K) * c := by
  have hm : (langevinMean eps cur g).length = cur.length :=
    length_vadd_eq rfl ((length_smul _ _).trans hg)
  unfold malaLogProb langevinLogQ
  rw [treeSum_eq_vsum _ _ (by rw [List.length_zipWith, hp, hm, Nat.min_self, hs]),
    vsum_normalLogpdf c eps _ _ (hp.trans hm.symm), hp]

/-- antisymmetry of the log MH ratio: the reverse move x' → x has the negated log alpha
    (no side condition: it is how the code composes the three terms) -/
theorem mala_reverse_symmetric (c eps : K) (shape : List Nat) (logp : List K → K)
    (grad : List K → List K) (x x' : List K) :
    malaLogRatio c eps shape logp grad x' x = -malaLogRatio c eps shape logp grad x x' := by
  simp only [malaLogRatio]
  ring

/-! ### HMC -/

def kinetic (p : List K) : K := sqNorm p / 2

/-- Hamiltonian H(x, p) = −log π(x) + ½|p|² -/
def energy (logp : List K → K) (s : List K × List K) : K := -logp s.1 + kinetic s.2

theorem energy_flip (logp : List K → K) (s : List K × List K) :
    energy logp (flip s) = energy logp s := by
  simp only [energy, flip, kinetic, sqNorm_vneg]

theorem momentumScore_eq (c : K) (shape : List Nat) (p : List K) (hs : shape.sum = p.length) :
    momentumScore c shape p = -kinetic p - (p.length : K) * c := by
  unfold momentumScore kinetic
  rw [treeSum_eq_vsum _ _ (hs.trans (List.length_map _).symm), vsum_normalLogpdf_std, neg_div]

/-- the normalisers of the momentum density cancel because the trajectory stays in ℝᵈ × ℝᵈ -/
theorem hmc_alpha_eq_energy (c eps : K) (n : Nat) (shape : List Nat) (logp : List K → K)
    (grad : List K → List K) (x p : List K) (hgrad : DimPres x.length grad)
    (hl : p.length = x.length) (hs : shape.sum = x.length) :
    hmcLogAlpha c eps n shape logp grad x p
      = energy logp (x, p) - energy logp (flip (leapfrogN grad eps n (x, p))) := by
  have hp' : (vneg (leapfrogN grad eps n (x, p)).2).length = x.length :=
    (WSd_flip (WSd_leapfrogN hgrad eps n (s := (x, p)) ⟨rfl, hl⟩)).2
  simp only [hmcLogAlpha, energy, flip]
  rw [momentumScore_eq c shape p (hs.trans hl.symm), momentumScore_eq c shape _ (hs.trans hp'.symm),
    hp', hl]
  ring

end Genjax.Mcmc

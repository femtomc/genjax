import GenjaxModel.Model.GfiDist
import GenjaxModel.Proofs.GfiInv
import GenjaxModel.Proofs.GfiCoh
import GenjaxModel.Proofs.Smc
/-!
  The distribution monad of `Model/GfiDist.lean` (finite weighted lists of outcomes, an outcome
  being a result or "the code raised"): expectation, mass and support of `bindO` / `pureO` / `failO`
  and of the loops `forLanesD` / `forStepsD`.

  Distributions with a single outcome (`IsPoint`): a computation all of whose steps have a single
  outcome has the single outcome the same computation has in `Option`.  This is how `simD`,
  `generateD`, `regenerateD` are tied to the executable `simulate`, `generate`, `regenerate` when
  every primitive has a one-point support (`simD_point_both` here, the others in `GfiGenTie.lean`,
  `GfiRegenTie.lean`).

  `assessP_eq_exp_assess`: `GF.assessP` (product of masses) is `GF.assess` (sum of log densities)
  pushed through an exponential `e`.
-/
namespace Genjax
open Smc Smc.FinDist

section Monad
variable {K : Type} [Field K] {α β : Type}

theorem optK_none (φ : α → K) : optK φ none = 0 := rfl
theorem optK_some (φ : α → K) (a : α) : optK φ (some a) = φ a := rfl

/-! ### expectations -/

theorem E_eq_zero_fd (d : FinDist K α) (f : α → K) (h : ∀ a, f a = 0) : E d f = 0 := by
  rw [funext h, E_const, mul_zero]

theorem E_pureO (a : α) (φ : Option α → K) : E (pureO a : FinDist K (Option α)) φ = φ (some a) :=
  E_pure _ _

theorem E_failO (φ : Option α → K) : E (failO : FinDist K (Option α)) φ = φ none :=
  E_pure _ _

theorem E_bindO (d : FinDist K (Option α)) (f : α → FinDist K (Option β)) (φ : β → K) :
    E (bindO d f) (optK φ) = E d (optK fun a => E (f a) (optK φ)) := by
  refine (E_bind _ _ _).trans (congrArg (E d) (funext fun o => ?_))
  cases o with
  | none => exact E_pure _ _
  | some a => rfl

/-- the form in which the operations post-process a result -/
theorem E_bindO_pureO (d : FinDist K (Option α)) (k : α → β) (φ : β → K) :
    E (bindO d fun a => pureO (k a)) (optK φ) = E d (optK fun a => φ (k a)) := by
  rw [E_bindO]
  simp only [E_pureO, optK_some]

theorem E_optK_congr (d : FinDist K (Option α)) (φ φ' : α → K)
    (h : ∀ a, some a ∈ supp d → φ a = φ' a) : E d (optK φ) = E d (optK φ') := by
  refine E_congr_supp _ _ _ fun o ho => ?_
  cases o with
  | none => rfl
  | some a => exact h a ho

theorem E_optK_mul_left (d : FinDist K (Option α)) (c : K) (φ : α → K) :
    E d (optK fun a => c * φ a) = c * E d (optK φ) := by
  refine Eq.trans (congrArg (E d) (funext fun o => ?_)) (E_mul_left d c (optK φ))
  cases o with
  | none => exact (mul_zero c).symm
  | some a => rfl

/-- `w0`: in `extend` the particle's weight before the step -/
theorem E_optK_weight_scale (d : FinDist K (Option (α × K))) (w0 : K) (φ : α → K) :
    E d (optK fun tw => (w0 * tw.2) * φ tw.1) = w0 * E d (optK fun tw => tw.2 * φ tw.1) := by
  rw [← E_optK_mul_left]
  exact E_optK_congr _ _ _ fun tw _ => mul_assoc _ _ _

theorem E_optK_zero (d : FinDist K (Option α)) : E d (optK fun _ => (0 : K)) = 0 :=
  E_eq_zero_fd _ _ fun o => by cases o <;> rfl

theorem E_bindO₂_mul {γ : Type} (d : FinDist K (Option α)) (e : FinDist K (Option β))
    (k : α → β → γ) (φ : γ → K) (u : α → K) (v : β → K)
    (h : ∀ a, some a ∈ supp d → ∀ b, some b ∈ supp e → φ (k a b) = u a * v b) :
    E (bindO d fun a => bindO e fun b => pureO (k a b)) (optK φ)
      = E d (optK u) * E e (optK v) := by
  rw [E_bindO, mul_comm (E d (optK u)), ← E_optK_mul_left]
  refine E_optK_congr _ _ _ fun a ha => ?_
  rw [E_bindO_pureO, mul_comm (E e (optK v)), ← E_optK_mul_left]
  exact E_optK_congr _ _ _ fun b hb => h a ha b hb

/-! ### mass -/

theorem mass_pureO (a : α) : mass (pureO a : FinDist K (Option α)) = 1 := E_pure _ _
theorem mass_failO : mass (failO : FinDist K (Option α)) = 1 := E_pure _ _

theorem mass_bindO (d : FinDist K (Option α)) (f : α → FinDist K (Option β)) (hd : mass d = 1)
    (hf : ∀ a, mass (f a) = 1) : mass (bindO d f) = 1 := by
  refine (E_bind _ _ _).trans ((congrArg (E d) (funext fun o => ?_)).trans hd)
  cases o with
  | none => exact E_pure _ _
  | some a => exact hf a

theorem mass_bindO_pureO {d : FinDist K (Option α)} (k : α → β) (hd : mass d = 1) :
    mass (bindO d fun a => pureO (k a)) = 1 :=
  mass_bindO _ _ hd fun _ => mass_pureO _

/-! ### supports: the successful outcomes -/

theorem mem_supp_pureO {a : α} {o : Option α} (h : o ∈ supp (pureO a : FinDist K (Option α))) :
    o = some a := mem_supp_pure _ _ h

theorem mem_supp_failO {o : Option α} (h : o ∈ supp (failO : FinDist K (Option α))) :
    o = none := mem_supp_pure _ _ h

theorem mem_supp_bindO {d : FinDist K (Option α)} {f : α → FinDist K (Option β)} {b : β}
    (h : some b ∈ supp (bindO d f)) : ∃ a, some a ∈ supp d ∧ some b ∈ supp (f a) := by
  obtain ⟨o, ho, hb⟩ := mem_supp_bind _ _ _ h
  cases o with
  | none => exact nomatch mem_supp_pure _ _ hb
  | some a => exact ⟨a, ho, hb⟩

theorem mem_supp_bindO_pureO {d : FinDist K (Option α)} {k : α → β} {b : β}
    (h : some b ∈ supp (bindO d fun a => pureO (k a))) : ∃ a, some a ∈ supp d ∧ b = k a := by
  obtain ⟨a, ha, h⟩ := mem_supp_bindO h
  exact ⟨a, ha, Option.some.inj (mem_supp_pureO h)⟩

/-! ### supports: the outcome "raised" -/

theorem none_mem_supp_bindO {d : FinDist K (Option α)} {f : α → FinDist K (Option β)}
    (h : none ∈ supp (bindO d f)) : none ∈ supp d ∨ ∃ a, some a ∈ supp d ∧ none ∈ supp (f a) := by
  obtain ⟨o, ho, hb⟩ := mem_supp_bind _ _ _ h
  cases o with
  | none => exact .inl ho
  | some a => exact .inr ⟨a, ho, hb⟩

theorem none_not_mem_supp_pureO (a : α) : none ∉ supp (pureO a : FinDist K (Option α)) :=
  fun h => nomatch mem_supp_pureO h

theorem none_not_mem_supp_bindO {d : FinDist K (Option α)} {f : α → FinDist K (Option β)}
    (hd : none ∉ supp d) (hf : ∀ a, none ∉ supp (f a)) : none ∉ supp (bindO d f) :=
  fun h => (none_mem_supp_bindO h).elim hd fun h => h.elim fun a h => hf a h.2

theorem none_not_mem_supp_bindO_pureO {d : FinDist K (Option α)} (k : α → β)
    (hd : none ∉ supp d) : none ∉ supp (bindO d fun a => pureO (k a)) :=
  none_not_mem_supp_bindO hd fun _ => none_not_mem_supp_pureO _

end Monad

/-! ## the loops -/

section Loops
variable {K : Type} [Field K] {α β γ : Type} {R : Type}

theorem E_forLanesD_cons (f : Nat → α → FinDist K (Option β)) (i : Nat) (a : α) (as : List α)
    (T : List β → K) :
    E (forLanesD f i (a :: as)) (optK T)
      = E (f i a) (optK fun b => E (forLanesD f (i + 1) as) (optK fun bs => T (b :: bs))) := by
  simp only [forLanesD]
  rw [E_bindO]
  exact E_optK_congr _ _ _ fun b _ => E_bindO_pureO _ _ _

theorem E_forStepsD_cons (f : Val → Nat → α → FinDist K (Option (β × Val))) (c : Val) (i : Nat)
    (a : α) (as : List α) (T : List β × Val → K) :
    E (forStepsD f c i (a :: as)) (optK T)
      = E (f c i a) (optK fun p =>
          E (forStepsD f p.2 (i + 1) as) (optK fun q => T (p.1 :: q.1, q.2))) := by
  simp only [forStepsD]
  rw [E_bindO]
  exact E_optK_congr _ _ _ fun p _ => E_bindO_pureO _ _ _

theorem forLanesD_mass (f : Nat → α → FinDist K (Option β)) (hf : ∀ i a, mass (f i a) = 1) :
    ∀ (l : List α) (i : Nat), mass (forLanesD f i l) = 1
  | [], _ => mass_pureO _
  | a :: as, i => mass_bindO _ _ (hf i a) fun _ =>
      mass_bindO_pureO _ (forLanesD_mass f hf as (i + 1))

theorem forStepsD_mass (f : Val → Nat → α → FinDist K (Option (β × Val)))
    (hf : ∀ c i a, mass (f c i a) = 1) :
    ∀ (l : List α) (c : Val) (i : Nat), mass (forStepsD f c i l) = 1
  | [], _, _ => mass_pureO _
  | a :: as, c, i => mass_bindO _ _ (hf c i a) fun p =>
      mass_bindO_pureO _ (forStepsD_mass f hf as p.2 (i + 1))

theorem forLanesD_supp_induction {f : Nat → α → FinDist K (Option β)}
    {motive : Nat → List α → List β → Prop} (nil : ∀ i, motive i [] [])
    (cons : ∀ i a as b bs, some b ∈ supp (f i a) → motive (i + 1) as bs →
      motive i (a :: as) (b :: bs)) :
    ∀ {l : List α} {i : Nat} {bs : List β}, some bs ∈ supp (forLanesD f i l) → motive i l bs
  | [], i, bs, h => by cases mem_supp_pureO h; exact nil i
  | a :: as, i, bs, h => by
      obtain ⟨b, hb, h⟩ := mem_supp_bindO h
      obtain ⟨bs', hbs', rfl⟩ := mem_supp_bindO_pureO h
      exact cons i a as b bs' hb (forLanesD_supp_induction nil cons hbs')

/-- `c` is the carry entering the remaining steps -/
theorem forStepsD_supp_induction {f : Val → Nat → α → FinDist K (Option (β × Val))}
    {motive : Val → Nat → List α → List β → Val → Prop} (nil : ∀ c i, motive c i [] [] c)
    (cons : ∀ c i a as p bs c', some p ∈ supp (f c i a) → motive p.2 (i + 1) as bs c' →
      motive c i (a :: as) (p.1 :: bs) c') :
    ∀ {l : List α} {c : Val} {i : Nat} {r : List β × Val}, some r ∈ supp (forStepsD f c i l) →
      motive c i l r.1 r.2
  | [], c, i, r, h => by cases mem_supp_pureO h; exact nil c i
  | a :: as, c, i, r, h => by
      obtain ⟨p, hp, h⟩ := mem_supp_bindO h
      obtain ⟨q, hq, rfl⟩ := mem_supp_bindO_pureO h
      exact cons c i a as p q.1 q.2 hp (forStepsD_supp_induction nil cons hq)

theorem forLanesD_lanesCoh (f : Nat → α → FinDist K (Option β)) (proj : β → Tr R)
    (coh : List Val → Tr R → Prop) (axes : List Bool) (args : List Val)
    (hf : ∀ j a b, some b ∈ supp (f j a) → coh (laneArgs axes args j) (proj b)) :
    ∀ (l : List α) (i : Nat) (bs : List β), some bs ∈ supp (forLanesD f i l) →
      bs.length = l.length ∧ lanesCoh coh axes args i (bs.map proj) := fun _ _ _ =>
  forLanesD_supp_induction (f := f)
    (motive := fun i l bs => bs.length = l.length ∧ lanesCoh coh axes args i (bs.map proj))
    (fun _ => ⟨rfl, trivial⟩)
    fun _ _ _ _ _ hb ih => ⟨congrArg Nat.succ ih.1, hf _ _ _ hb, ih.2⟩

theorem forStepsD_stepsCoh (f : Val → Nat → α → FinDist K (Option (β × Val))) (proj : β → Tr R)
    (coh : List Val → Tr R → Prop) (xs : Val)
    (hf : ∀ c j a p, some p ∈ supp (f c j a) →
      coh [c, xs.nth j] (proj p.1) ∧ p.2 = (proj p.1).retval.fst) :
    ∀ (l : List α) (c : Val) (i : Nat) (r : List β × Val), some r ∈ supp (forStepsD f c i l) →
      r.1.length = l.length ∧ stepsCoh coh xs c i (r.1.map proj) r.2 := fun _ _ _ _ =>
  forStepsD_supp_induction (f := f)
    (motive := fun c i l bs c' => bs.length = l.length ∧ stepsCoh coh xs c i (bs.map proj) c')
    (fun _ _ => ⟨rfl, rfl⟩)
    fun _ _ _ _ _ _ _ hp ih => ⟨congrArg Nat.succ ih.1, (hf _ _ _ _ hp).1, (hf _ _ _ _ hp).2 ▸ ih.2⟩

theorem forLanesD_forall_fd (f : Nat → α → FinDist K (Option β)) (Q : β → Prop)
    (hf : ∀ i a b, some b ∈ supp (f i a) → Q b) :
    ∀ (l : List α) (i : Nat) (bs : List β), some bs ∈ supp (forLanesD f i l) → ∀ b ∈ bs, Q b :=
  fun _ _ _ => forLanesD_supp_induction (f := f) (motive := fun _ _ bs => ∀ b ∈ bs, Q b)
    (fun _ _ h => absurd h List.not_mem_nil)
    fun _ _ _ _ _ hb ih => List.forall_mem_cons.mpr ⟨hf _ _ _ hb, ih⟩

theorem forStepsD_forall_fd (f : Val → Nat → α → FinDist K (Option (β × Val))) (Q : β → Prop)
    (hf : ∀ c i a p, some p ∈ supp (f c i a) → Q p.1) :
    ∀ (l : List α) (c : Val) (i : Nat) (r : List β × Val), some r ∈ supp (forStepsD f c i l) →
      ∀ b ∈ r.1, Q b :=
  fun _ _ _ _ => forStepsD_supp_induction (f := f) (motive := fun _ _ _ bs _ => ∀ b ∈ bs, Q b)
    (fun _ _ _ h => absurd h List.not_mem_nil)
    fun _ _ _ _ _ _ _ hp ih => List.forall_mem_cons.mpr ⟨hf _ _ _ _ hp, ih⟩

theorem forLanesD_nofail_mem (f : Nat → α → FinDist K (Option β)) :
    ∀ (l : List α) (i : Nat), (∀ j, ∀ a ∈ l, none ∉ supp (f j a)) → none ∉ supp (forLanesD f i l)
  | [], _, _ => none_not_mem_supp_pureO _
  | a :: as, i, hf =>
      none_not_mem_supp_bindO (hf i a List.mem_cons_self) fun _ =>
        none_not_mem_supp_bindO_pureO _
          (forLanesD_nofail_mem f as (i + 1) fun j a ha => hf j a (List.mem_cons_of_mem _ ha))

theorem forStepsD_nofail_mem (f : Val → Nat → α → FinDist K (Option (β × Val))) :
    ∀ (l : List α) (c : Val) (i : Nat), (∀ c j, ∀ a ∈ l, none ∉ supp (f c j a)) →
      none ∉ supp (forStepsD f c i l)
  | [], _, _, _ => none_not_mem_supp_pureO _
  | a :: as, c, i, hf =>
      none_not_mem_supp_bindO (hf c i a List.mem_cons_self) fun p =>
        none_not_mem_supp_bindO_pureO _ (forStepsD_nofail_mem f as p.2 (i + 1)
          fun c j a ha => hf c j a (List.mem_cons_of_mem _ ha))

theorem forLanesD_nofail (f : Nat → α → FinDist K (Option β)) (hf : ∀ i a, none ∉ supp (f i a))
    (l : List α) (i : Nat) : none ∉ supp (forLanesD f i l) :=
  forLanesD_nofail_mem f l i fun j a _ => hf j a

theorem forStepsD_nofail (f : Val → Nat → α → FinDist K (Option (β × Val)))
    (hf : ∀ c i a, none ∉ supp (f c i a)) (l : List α) (c : Val) (i : Nat) :
    none ∉ supp (forStepsD f c i l) :=
  forStepsD_nofail_mem f l c i fun c j a _ => hf c j a

theorem forLanesD_E_map (G : Nat → α → FinDist K (Option β)) (S : Nat → α → FinDist K (Option γ))
    (m : γ → β) (h : ∀ i a (Φ : β → K), E (G i a) (optK Φ) = E (S i a) (optK fun c => Φ (m c))) :
    ∀ (l : List α) (i : Nat) (Ψ : List β → K),
      E (forLanesD G i l) (optK Ψ) = E (forLanesD S i l) (optK fun cs => Ψ (cs.map m))
  | [], i, Ψ => by simp only [forLanesD, E_pureO, optK_some, List.map_nil]
  | a :: as, i, Ψ => by
      rw [E_forLanesD_cons, E_forLanesD_cons, h]
      exact E_optK_congr _ _ _ fun c _ => forLanesD_E_map G S m h as (i + 1) fun bs => Ψ (m c :: bs)

theorem forStepsD_E_map (G : Val → Nat → α → FinDist K (Option (β × Val)))
    (S : Val → Nat → α → FinDist K (Option (γ × Val))) (m : γ → β)
    (h : ∀ c i a (Φ : β × Val → K),
      E (G c i a) (optK Φ) = E (S c i a) (optK fun p => Φ (m p.1, p.2))) :
    ∀ (l : List α) (c : Val) (i : Nat) (Ψ : List β × Val → K),
      E (forStepsD G c i l) (optK Ψ)
        = E (forStepsD S c i l) (optK fun r => Ψ (r.1.map m, r.2))
  | [], c, i, Ψ => by simp only [forStepsD, E_pureO, optK_some, List.map_nil]
  | a :: as, c, i, Ψ => by
      rw [E_forStepsD_cons, E_forStepsD_cons, h]
      exact E_optK_congr _ _ _ fun p _ =>
        forStepsD_E_map G S m h as p.2 (i + 1) fun q => Ψ (m p.1 :: q.1, q.2)

theorem prodK_map_one (l : List α) :
    prodK (l.map fun _ => (1 : K)) = 1 := by
  induction l with
  | nil => rfl
  | cons _ _ ih => simp only [List.map_cons, prodK, ih, mul_one]

end Loops

/-! ## distributions with a single outcome -/

section Point
variable {K : Type} [Field K] {α β α' β' : Type}

/-- a distribution with a single outcome `a` (of whatever mass) -/
def IsPoint (d : FinDist K α) (a : α) : Prop := ∃ q, d = [(a, q)]

theorem IsPoint.pure (a : α) : IsPoint (FinDist.pure a : FinDist K α) a := ⟨1, rfl⟩

theorem IsPoint.eq_pure {d : FinDist K α} {a : α} (h : IsPoint d a) (hm : mass d = 1) :
    d = FinDist.pure a := by
  obtain ⟨q, rfl⟩ := h
  have hq : q * 1 + 0 = 1 := hm
  rw [add_zero, mul_one] at hq
  rw [hq]
  rfl

omit [Field K] in
/-- the shape `IsPoint.bindO_map` wants of its first premise when the two sides have the same
    outcomes (`m := id`) -/
theorem IsPoint.map_id {d : FinDist K (Option α)} {o : Option α} (h : IsPoint d o) :
    IsPoint d (o.map id) := by cases o <;> exact h

theorem IsPoint.pureO_eq {a : α} {o : Option α} (h : some a = o) :
    IsPoint (pureO a : FinDist K (Option α)) o := h ▸ IsPoint.pure _

theorem IsPoint.bindO {d : FinDist K (Option α)} {o : Option α} {f : α → FinDist K (Option β)}
    {h : α → Option β} (hd : IsPoint d o) (hf : ∀ a, o = some a → IsPoint (f a) (h a)) :
    IsPoint (bindO d f) (o.bind h) := by
  obtain ⟨q, rfl⟩ := hd
  cases o with
  | none => exact ⟨q * 1, rfl⟩
  | some a =>
    obtain ⟨q', hq'⟩ := hf a rfl
    refine ⟨q * q', ?_⟩
    simp only [FinDist.bindO, FinDist.bind, List.flatMap_cons, List.flatMap_nil, hq']
    rfl

/-- `IsPoint.bindO` when the outcomes on the distribution side are images (`m`, `m'`) of those on
    the `Option` side: the form every case of the ties of `generateD`, `regenerateD` has -/
theorem IsPoint.bindO_map {d : FinDist K (Option α)} {o : Option α'} {m : α' → α}
    {f : α → FinDist K (Option β)} {h : α' → Option β'} {m' : β' → β} (hd : IsPoint d (o.map m))
    (hf : ∀ a, IsPoint (f (m a)) ((h a).map m')) :
    IsPoint (FinDist.bindO d f) ((o.bind h).map m') := by
  cases o with
  | none => exact hd.bindO (h := fun _ => none) fun _ ha => nomatch ha
  | some a => exact hd.bindO (h := fun _ => (h a).map m') fun b hb => by cases hb; exact hf a

theorem forLanesD_point (f : Nat → α → FinDist K (Option β)) (h : Nat → α → Option β)
    (hf : ∀ i a, IsPoint (f i a) (h i a)) :
    ∀ (l : List α) (i : Nat), IsPoint (forLanesD f i l) (forLanes h i l)
  | [], i => IsPoint.pure _
  | a :: as, i => by
      simp only [forLanesD, forLanes]
      refine (IsPoint.bindO (hf i a) fun b _ =>
        IsPoint.bindO (forLanesD_point f h hf as (i + 1)) fun bs _ => IsPoint.pure (some (b :: bs)))

theorem forStepsD_point (f : Val → Nat → α → FinDist K (Option (β × Val)))
    (h : Val → Nat → α → Option (β × Val)) (hf : ∀ c i a, IsPoint (f c i a) (h c i a)) :
    ∀ (l : List α) (c : Val) (i : Nat), IsPoint (forStepsD f c i l) (forSteps h c i l)
  | [], c, i => IsPoint.pure _
  | a :: as, c, i => by
      simp only [forStepsD, forSteps]
      refine (IsPoint.bindO (hf c i a) fun p _ =>
        IsPoint.bindO (forStepsD_point f h hf as p.2 (i + 1)) fun q _ =>
          IsPoint.pure (some (p.1 :: q.1, q.2)))

theorem forLanesD_point_map (f : Nat → α → FinDist K (Option β)) (h : Nat → α → Option β')
    (m : β' → β) (hf : ∀ i a, IsPoint (f i a) ((h i a).map m)) (l : List α) (i : Nat) :
    IsPoint (forLanesD f i l) ((forLanes h i l).map (List.map m)) :=
  forLanes_map h m l i ▸ forLanesD_point f _ hf l i

theorem forStepsD_point_map (f : Val → Nat → α → FinDist K (Option (β × Val)))
    (h : Val → Nat → α → Option (β' × Val)) (m : β' → β)
    (hf : ∀ c i a, IsPoint (f c i a) ((h c i a).map fun p => (m p.1, p.2))) (l : List α) (c : Val)
    (i : Nat) : IsPoint (forStepsD f c i l) ((forSteps h c i l).map fun q => (q.1.map m, q.2)) :=
  forSteps_map h m l c i ▸ forStepsD_point f _ hf l c i

variable {R : Type} [Zero R] [Add R] [Neg R] (pd : PD K) (P : Prims R)
variable (hsupp : ∀ d a, pd.support d a = [P.draw d a])

include hsupp in
theorem simD_point_both :
    (∀ (g : GF) (args : List Val), IsPoint (g.simD pd P args) (g.simulate P args)) ∧
    ∀ (b : Body) (env : List Val) (subs : TrL R) (s : R),
      IsPoint (b.simD pd P env subs s) (b.simulate P env subs s) := by
  refine GF.rec_both ?_ ?_ ?_ ?_ ?_ ?_ ?_
  · intro d args
    simp only [GF.simD, GF.simulate, hsupp, List.map_cons, List.map_nil]
    exact ⟨_, rfl⟩
  · intro body ih args
    simp only [GF.simD, GF.simulate]
    exact (ih args .nil 0).bindO fun r _ => IsPoint.pure _
  · intro g axes n ih args
    simp only [GF.simD, GF.simulate]
    exact (forLanesD_point _ _ (fun i _ => ih _) _ _).bindO fun ts _ => IsPoint.pure _
  · intro g n ih args
    simp only [GF.simD, GF.simulate]
    exact (forStepsD_point _ _ (fun c i _ => (ih _).bindO fun t _ => IsPoint.pure _) _ _ _).bindO
      fun r _ => IsPoint.pure _
  · intro t f iht ihf args
    simp only [GF.simD, GF.simulate]
    exact (iht _).bindO fun a _ => (ihf _).bindO fun b _ => IsPoint.pure _
  · intro ex env subs s
    exact IsPoint.pure _
  · intro addr g es rest ihg ihr env subs s
    simp only [Body.simD, Body.simulate]
    split
    · exact IsPoint.pure _
    · exact (ihg _).bindO fun t _ => ihr _ _ _

end Point

/-! ## a map of the results pushed through the `Option` computations of `assess`

  `assessP`, `assessS` and `assess` are the same recursion in different domains; each comparison
  ("this one is that one with the mass mapped by `m`") goes through these three steps. -/

/-- the wrapper a Scan puts around its step (`(value, (carry, out)) ↦ ((value, out), carry)`)
    commutes with a map of the value -/
theorem scanStep_map {β γ : Type} (o : Option (γ × Val)) (m : γ → β) :
    ((o.map fun p => (m p.1, p.2)).bind fun r => some ((r.1, r.2.snd), r.2.fst))
      = (o.bind fun r => some ((r.1, r.2.snd), r.2.fst)).map
        fun p => ((fun q : γ × Val => (m q.1, q.2)) p.1, p.2) := by
  cases o <;> rfl

theorem Option.map_bind_map {α β γ δ : Type} {o : Option α} {m : α → β} {k : β → Option δ}
    {k' : α → Option γ} {m' : γ → δ} (h : ∀ a, k (m a) = (k' a).map m') :
    (o.map m).bind k = (o.bind k').map m' := by
  cases o with
  | none => rfl
  | some a => exact h a

theorem Option.bind_congr_map {α γ δ : Type} {o : Option α} {k : α → Option δ}
    {k' : α → Option γ} {m' : γ → δ} (h : ∀ a, k a = (k' a).map m') :
    o.bind k = (o.bind k').map m' := by
  cases o with
  | none => rfl
  | some a => exact h a

/-! ## `assessP` is `assess` through an exponential -/

section Exp
variable {K : Type} [Field K] {R : Type} [Zero R] [Add R]
variable (e : R → K) (he0 : e 0 = 1) (hadd : ∀ a b, e (a + b) = e a * e b)

include he0 hadd in
theorem prodK_map_exp (l : List R) : prodK (l.map e) = e (sumR l) := by
  induction l with
  | nil => exact he0.symm
  | cons a l ih => exact (congrArg (e a * ·) ih).trans (hadd a _).symm

include he0 hadd in
theorem prodK_map_exp_fst (rs : List (R × Val)) (G : List Val → Val) :
    (prodK ((rs.map fun p => (e p.1, p.2)).map (·.1)), G ((rs.map fun p => (e p.1, p.2)).map (·.2)))
      = (e (sumR (rs.map (·.1))), G (rs.map (·.2))) := by
  rw [List.map_map, List.map_map, ← prodK_map_exp e he0 hadd, List.map_map]
  rfl

variable (pd : PD K) (P : Prims R) (hpm : ∀ d a v, pd.pm d a v = e (P.lp d a v))

include he0 hadd hpm in
theorem assessP_exp_aux :
    (∀ (g : GF) (x : CM) (args : List Val),
      g.assessP pd x args = (g.assess P x args).map fun p => (e p.1, p.2)) ∧
    ∀ (b : Body) (x : CML) (env : List Val) (seen : List String),
      b.assessP pd x env seen = (b.assess P x env seen).map fun p => (e p.1, p.2) := by
  refine GF.rec_both ?_ ?_ ?_ ?_ ?_ ?_ ?_
  · intro d x args
    cases x with
    | leaf v => exact congrArg (fun k => some (k, v)) (hpm d args v)
    | _ => rfl
  · intro body ih x args
    cases x with
    | node l => exact ih l args []
    | _ => rfl
  · intro g axes n ih x args
    cases x with
    | lanes l =>
      dsimp only [GF.assessP, GF.assess]
      rw [funext fun i => funext fun xi => ih xi (laneArgs axes args i), forLanes_map]
      refine Option.bind_congr_map fun _ => Option.map_bind_map fun rs => ?_
      exact congrArg some (prodK_map_exp_fst e he0 hadd rs Val.ofList)
    | _ => rfl
  · intro g n ih x args
    cases x with
    | lanes l =>
      dsimp only [GF.assessP, GF.assess]
      simp only [ih, Option.bind_eq_bind, Option.pure_def, scanStep_map,
        forSteps_map _ fun q : R × Val => (e q.1, q.2)]
      refine Option.bind_congr_map fun _ => Option.map_bind_map fun r => ?_
      exact congrArg some (prodK_map_exp_fst e he0 hadd r.1 fun vs => Val.pair r.2 (Val.ofList vs))
    | _ => rfl
  · intro t f iht ihf x args
    refine (congrArg (Option.bind · _) (iht x _)).trans (Option.map_bind_map fun p => ?_)
    refine (congrArg (Option.bind · _) (ihf x _)).trans (Option.map_bind_map fun q => ?_)
    cases (args.getD 0 .nil).truthy <;> rfl
  · intro ex x env seen
    exact congrArg (fun k => some (k, _)) he0.symm
  · intro addr g es rest ihg ihr x env seen
    dsimp only [Body.assessP, Body.assess]
    refine (congrArg (ite _ none) ?_).trans (apply_ite (Option.map _) _ none _).symm
    cases x.find? addr with
    | none => rfl
    | some sub =>
      refine (congrArg (Option.bind · _) (ihg sub _)).trans (Option.map_bind_map fun p => ?_)
      refine (congrArg (Option.bind · _) (ihr x _ _)).trans (Option.map_bind_map fun q => ?_)
      exact congrArg (fun k => some (k, _)) (hadd _ _).symm

include he0 hadd hpm in
theorem assessP_exp_body : (b : Body) → ∀ (x : CML) (env : List Val) (seen : List String),
      b.assessP pd x env seen = (b.assess P x env seen).map fun p => (e p.1, p.2) :=
  (assessP_exp_aux e he0 hadd pd P hpm).2

include he0 hadd hpm in
/-- `assessP` (product of the site masses) is `assess` (sum of the site log densities) pushed
    through `e`; it raises exactly when `assess` raises and returns the same value. -/
theorem assessP_eq_exp_assess (g : GF) (x : CM) (args : List Val) :
    g.assessP pd x args = (g.assess P x args).map fun p => (e p.1, p.2) :=
  (assessP_exp_aux e he0 hadd pd P hpm).1 g x args

end Exp

end Genjax

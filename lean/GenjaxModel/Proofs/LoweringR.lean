import GenjaxModel.Model.Lowering
/-!
Lemmas for `Props/C14.lean`. In the specification variant both decision procedures are a short
cascade of tests on the placement (`outcomeR_spec`, `seededR_spec`); each has one case lemma that
lists what every possible answer says about the placement, and the statements of C14 are read off
that list. `relocate` (rule ix) only turns custom-derivative constructs into `grad` or `opaque`, so
it preserves every test that does not tell these three apart.
-/
namespace Genjax.Lowering

/-- the interpreter of a modular_vmap that meets an opaque construct only ever raises -/
theorem mvmapOpaque_raises (pl : List C) (o : Out) (h : mvmapOpaque pl = some o) :
    o = .loweringError ∨ o = .batchError := by
  induction pl with
  | nil => cases h
  | cons c rest ih =>
    rw [mvmapOpaque] at h
    split at h
    · cases h; split <;> simp
    · exact ih h

theorem outcomeR_spec (pl : List C) : outcomeR Cfg.spec pl =
    (mvmapOpaque pl).getD
      (if pl.contains .vmapB then .batchError else if pl.any C.compiles then .loweringError
       else if pl.contains .vmapU then .batchError else .fresh) := by
  simp only [outcomeR, Cfg.spec, Bool.false_and, Bool.false_eq_true, if_false]
  cases mvmapOpaque pl <;> rfl

theorem seededR_spec (pl : List C) : seededR Cfg.spec pl =
    (mvmapOpaque pl).getD
      (if pl.contains .vmapB then .batchError
       else if !(pl.all fun c => c.seedInterprets || c = .grad) then .loweringError
       else if pl.contains .vmapU then .batchError else .keyFunction) := by
  simp only [seededR, Cfg.spec, Bool.false_and, Bool.false_eq_true, if_false]
  cases mvmapOpaque pl <;> rfl

/-- unseeded, specification variant: the call raises, or it is an eager fresh draw and then the
    placement has no compiling construct and no plain vmap -/
theorem outcomeR_spec_cases (pl : List C) :
    outcomeR Cfg.spec pl = .loweringError ∨ outcomeR Cfg.spec pl = .batchError ∨
      (outcomeR Cfg.spec pl = .fresh ∧ pl.any C.compiles = false ∧ pl.contains .vmapU = false ∧
        pl.contains .vmapB = false) := by
  rw [outcomeR_spec]
  cases h : mvmapOpaque pl with
  | some o =>
    rcases mvmapOpaque_raises pl o h with rfl | rfl
    · exact .inl rfl
    · exact .inr (.inl rfl)
  | none =>
    cases hB : pl.contains .vmapB
    case true => exact .inr (.inl rfl)
    cases hc : pl.any C.compiles
    case true => exact .inl rfl
    cases hU : pl.contains .vmapU
    case true => exact .inr (.inl rfl)
    exact .inr (.inr ⟨rfl, rfl, rfl, rfl⟩)

/-- seeded, specification variant: the call raises, or it is a function of the key and then Seed
    interprets every construct of the placement -/
theorem seededR_spec_cases (pl : List C) :
    seededR Cfg.spec pl = .loweringError ∨ seededR Cfg.spec pl = .batchError ∨
      (seededR Cfg.spec pl = .keyFunction ∧
        (pl.all fun c => c.seedInterprets || c = .grad) = true) := by
  rw [seededR_spec]
  cases h : mvmapOpaque pl with
  | some o =>
    rcases mvmapOpaque_raises pl o h with rfl | rfl
    · exact .inl rfl
    · exact .inr (.inl rfl)
  | none =>
    cases hB : pl.contains .vmapB
    case true => exact .inr (.inl rfl)
    cases hs : pl.all fun c => c.seedInterprets || c = .grad
    case false => exact .inl rfl
    cases hU : pl.contains .vmapU
    case true => exact .inr (.inl rfl)
    exact .inr (.inr ⟨rfl, rfl⟩)

/-- without `grad` and without an unbatched plain vmap none of the tests in which the two variants
    differ is reached -/
theorem asis_eq_spec_R (pl : List C) (hg : hasGrad pl = false) (hu : pl.contains .vmapU = false) :
    outcomeR Cfg.asis pl = outcomeR Cfg.spec pl ∧ seededR Cfg.asis pl = seededR Cfg.spec pl := by
  constructor <;>
    simp only [outcomeR, seededR, Cfg.asis, Cfg.spec, hg, hu, Bool.and_false, Bool.false_eq_true,
      if_false]

/-! ### `relocate` only rewrites custom-derivative constructs (into `grad` or `opaque`) -/

theorem relocate_any (f : C → Bool) (hg : f .grad = f .customD) (ho : f .opaque = f .customD)
    (b : Bool) (pl : List C) : (relocate b pl).any f = pl.any f := by
  induction pl generalizing b with
  | nil => rfl
  | cons c rest ih =>
    rw [relocate, List.any_cons, List.any_cons, ih]
    congr 1
    by_cases hc : c = .customD
    · subst hc; cases b <;> simp [hg, ho]
    · rw [if_neg hc]

theorem relocate_contains (c : C) (hg : (c == .grad) = (c == .customD))
    (ho : (c == .opaque) = (c == .customD)) (b : Bool) (pl : List C) :
    (relocate b pl).contains c = pl.contains c := by
  rw [List.contains_eq_any_beq, List.contains_eq_any_beq]
  exact relocate_any _ hg ho b pl

theorem relocate_opaque (b : Bool) (pl : List C) (h : .opaque ∈ pl) : .opaque ∈ relocate b pl := by
  induction pl generalizing b with
  | nil => cases h
  | cons c rest ih =>
    rw [relocate]
    rcases List.mem_cons.mp h with rfl | h
    · exact List.mem_cons_self
    · exact List.mem_cons_of_mem _ (ih _ h)

/-- without a `grad` the custom-derivative constructs all become opaque and no `grad` appears -/
theorem relocate_no_grad (pl : List C) (hg : hasGrad pl = false) : hasGrad (relocate false pl) = false := by
  induction pl with
  | nil => rfl
  | cons c rest ih =>
    simp only [hasGrad, List.contains_cons, Bool.or_eq_false_iff] at hg ih
    rw [hasGrad, relocate, List.contains_cons, Bool.or_eq_false_iff, BEq.comm (a := c), hg.1]
    refine ⟨?_, ih hg.2⟩
    by_cases hc : c = .customD
    · subst hc; rfl
    · rw [if_neg hc]; exact hg.1

end Genjax.Lowering

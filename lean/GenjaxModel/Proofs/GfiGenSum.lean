import GenjaxModel.Proofs.GfiGenBase
/-!
  Splitting an expectation over the finitely many choice maps (more generally: keys) its outcomes
  can have (`E_split_key`; two expectations compared key by key: `E_eq_of_fibres`); the expectation
  over `simulate` of a function of the choice map as such a sum (`simD_E_choices`); the test functions
  of the observable trace (`obsF`).
-/
namespace Genjax
open Smc Smc.FinDist

section Split
variable {K : Type} [Field K] {R : Type}

theorem sumK_zeros_fd {α : Type} (l : List α) : sumK (l.map fun _ => (0 : K)) = 0 := by
  rw [sumK_map_const, mul_zero]

theorem sumK_ite_eq_fd {α : Type} [DecidableEq α] (ys : List α) (hnd : ys.Nodup) (c : α)
    (hc : c ∈ ys) (v : K) : sumK (ys.map fun y => if c = y then v else 0) = v := by
  have h := sumK_indicator_fd ys hnd c (fun _ => (1 : K)) fun _ => v
  rw [if_pos hc, one_mul] at h
  refine Eq.trans (congrArg sumK (List.map_congr_left fun y _ => ?_)) h
  rw [one_mul]
  exact if_congr eq_comm rfl rfl

theorem exists_nodup_mem {γ : Type} [DecidableEq γ] :
    ∀ cs : List γ, ∃ Y : List γ, Y.Nodup ∧ ∀ y, y ∈ Y ↔ y ∈ cs
  | [] => ⟨[], List.nodup_nil, fun _ => Iff.rfl⟩
  | c :: cs => by
      obtain ⟨Y, hnd, hm⟩ := exists_nodup_mem cs
      by_cases h : c ∈ Y
      · refine ⟨Y, hnd, fun y => ?_⟩
        rw [hm y, List.mem_cons]
        constructor
        · exact Or.inr
        · rintro (rfl | h')
          · exact (hm y).mp h
          · exact h'
      · refine ⟨c :: Y, List.nodup_cons.mpr ⟨h, hnd⟩, fun y => ?_⟩
        rw [List.mem_cons, List.mem_cons, hm y]

theorem E_split_key {β γ : Type} [DecidableEq γ] (d : FinDist K (Option β)) (key : β → Option γ)
    (f : β → K) (ys : List γ) (hnd : ys.Nodup)
    (hcov : ∀ b, some b ∈ supp d → ∃ y ∈ ys, key b = some y) :
    E d (optK f)
      = sumK (ys.map fun y => E d (optK fun b => if key b = some y then f b else 0)) := by
  induction d with
  | nil =>
    simp only [E_nil]
    exact (sumK_zeros_fd ys).symm
  | cons op d ih =>
    obtain ⟨o, p⟩ := op
    have ih' := ih fun b hb => hcov b (List.mem_cons_of_mem _ hb)
    simp only [E_cons]
    rw [sumK_map_add, sumK_map_mul_left, ← ih']
    congr 2
    cases o with
    | none =>
      simp only [optK_none]
      exact (sumK_zeros_fd ys).symm
    | some b =>
      obtain ⟨y0, hy0, hb⟩ := hcov b List.mem_cons_self
      simp only [optK_some, hb, Option.some.injEq]
      exact (sumK_ite_eq_fd ys hnd y0 hy0 (f b)).symm

/-- `Q`: a property the keys of all outcomes have -/
theorem E_eq_of_fibres {β β' γ : Type} [DecidableEq γ] (d : FinDist K (Option β))
    (e : FinDist K (Option β')) (kd : β → Option γ) (ke : β' → Option γ) (f : β → K) (f' : β' → K)
    (Q : γ → Prop) (hd : ∀ b, some b ∈ supp d → ∃ y, kd b = some y ∧ Q y)
    (he : ∀ b, some b ∈ supp e → ∃ y, ke b = some y ∧ Q y)
    (h : ∀ y, Q y → E d (optK fun b => if kd b = some y then f b else 0)
      = E e (optK fun b => if ke b = some y then f' b else 0)) :
    E d (optK f) = E e (optK f') := by
  -- the finitely many keys either side can produce
  obtain ⟨Y, hnd, hY⟩ := exists_nodup_mem
    ((supp d).filterMap (fun o => o.bind kd) ++ (supp e).filterMap (fun o => o.bind ke))
  have hcd : ∀ b, some b ∈ supp d → ∃ y ∈ Y, kd b = some y := fun b hb =>
    let ⟨y, hy, _⟩ := hd b hb
    ⟨y, (hY y).mpr (List.mem_append_left _ (List.mem_filterMap.mpr ⟨some b, hb, hy⟩)), hy⟩
  have hce : ∀ b, some b ∈ supp e → ∃ y ∈ Y, ke b = some y := fun b hb =>
    let ⟨y, hy, _⟩ := he b hb
    ⟨y, (hY y).mpr (List.mem_append_right _ (List.mem_filterMap.mpr ⟨some b, hb, hy⟩)), hy⟩
  rw [E_split_key d kd f Y hnd hcd, E_split_key e ke f' Y hnd hce]
  refine congrArg sumK (List.map_congr_left fun y hy => h y ?_)
  -- `y` is the key of an outcome of `d` or of `e`
  rcases List.mem_append.mp ((hY y).mp hy) with hm | hm
  · obtain ⟨o, ho, hoy⟩ := List.mem_filterMap.mp hm
    cases o with
    | none => cases hoy
    | some b =>
      obtain ⟨y', hy', hq⟩ := hd b ho
      cases hy'.symm.trans hoy
      exact hq
  · obtain ⟨o, ho, hoy⟩ := List.mem_filterMap.mp hm
    cases o with
    | none => cases hoy
    | some b =>
      obtain ⟨y', hy', hq⟩ := he b ho
      cases hy'.symm.trans hoy
      exact hq

theorem E_split_choices (d : FinDist K (Option (Tr R))) (f : Tr R → K) (ys : List CM)
    (hnd : ys.Nodup) (hcov : ∀ t, some t ∈ supp d → ∃ y ∈ ys, t.choices = some y) :
    E d (optK f)
      = sumK (ys.map fun y => E d (optK fun t => if t.choices = some y then f t else 0)) :=
  E_split_key d Tr.choices f ys hnd hcov

/-- executable form of the covering hypothesis `hcov` of the sums over completions -/
def coversB (d : FinDist K (Option (Tr R))) (ys : List CM) : Bool :=
  d.all fun op => match op.1 with
    | none => true
    | some t => ys.any fun y => decide (t.choices = some y)

omit [Field K] in
theorem covers_of_coversB (d : FinDist K (Option (Tr R))) (ys : List CM) (h : coversB d ys = true) :
    ∀ t, some t ∈ supp d → ∃ y ∈ ys, t.choices = some y := by
  intro t ht
  simp only [supp, List.mem_map] at ht
  obtain ⟨op, hop, hop1⟩ := ht
  simp only [coversB, List.all_eq_true] at h
  have := h op hop
  rw [hop1] at this
  obtain ⟨y, hy, h⟩ := List.any_eq_true.mp this
  exact ⟨y, hy, of_decide_eq_true h⟩

section Sim
variable [AddCommGroup R] (pd : PD K) (P : Prims R)

/-- the law of `simulate` (C01) as a finite sum; `coversB` is an executable check of `hcov` -/
theorem simD_E_choices (hpd : pd.WF) (hnorm : pd.Normalised) (q : GF) (hc : q.condOK = true)
    (qargs : List Val) (Z : List CM) (hnd : Z.Nodup)
    (hcov : ∀ t, some t ∈ supp (q.simD pd P qargs) → ∃ z ∈ Z, t.choices = some z)
    (hshape : ∀ z ∈ Z, q.skel = some z.skel) (f : Tr R → K) (f' : CM → K)
    (hf : ∀ t z, t.choices = some z → f t = f' z) :
    E (q.simD pd P qargs) (optK f)
      = sumK (Z.map fun z => pmassOf (q.assessP pd z qargs) * f' z) := by
  rw [E_split_choices _ _ Z hnd hcov]
  congr 1
  apply List.map_congr_left
  intro z hz
  rw [← massOf_one, ← simD_law pd P hpd hnorm q hc qargs z (fun _ => 1) (hshape z hz), mul_comm,
    ← E_optK_mul_left]
  apply E_optK_congr
  intro t _
  simp only [choicesAre]
  split
  · rename_i h
    rw [hf t z h, mul_one]
  · rw [mul_zero]

end Sim

/-- the mass of the choice map of a coherent trace is `e(−score)`, and multiplying by `e(score)` is
    dividing by that mass -/
theorem Vi.assessP_of_coh [AddCommGroup R] (P : Prims R) (e : R → K) (he0 : e 0 = 1)
    (hadd : ∀ a b, e (a + b) = e a * e b) (pd : PD K) (hpm : ∀ d a v, pd.pm d a v = e (P.lp d a v))
    (q : GF) (qargs : List Val) (t : Tr R) (hcoh : q.Coh P qargs t) (z : CM)
    (hz : t.choices = some z) :
    q.assessP pd z qargs = some (e (-t.score), t.retval) ∧
      ∀ x : K, x * e t.score = x / e (-t.score) :=
  ⟨(assessP_eq_exp_assess e he0 hadd pd P hpm q z qargs).trans
      (congrArg _ (coh_assess P q qargs t hcoh z hz)),
    fun x => by
      rw [eq_inv_of_mul_eq_one_right
        (by rw [← hadd, add_neg_cancel, he0] : e t.score * e (-t.score) = 1), div_inv_eq_mul]⟩

/-- a function of the observable trace: choice map (`get_choices()`) and return value -/
def obsF (F : CM → Val → K) (t : Tr R) : K :=
  match t.choices with
  | some y => F y t.retval
  | none => 0

theorem obsF_of_choices (F : CM → Val → K) {t : Tr R} {y : CM} (h : t.choices = some y) :
    obsF F t = F y t.retval := by
  simp only [obsF, h]

theorem E_weight_choicesAre (d : FinDist K (Option (Tr R × K))) (y : CM) :
    E d (optK fun tw => if tw.1.choices = some y then tw.2 else 0)
      = E d (optK fun tw => tw.2 * choicesAre y (fun _ => 1) tw.1) := by
  congr 2
  funext tw
  simp only [choicesAre, mul_ite, mul_one, mul_zero]

end Split

end Genjax

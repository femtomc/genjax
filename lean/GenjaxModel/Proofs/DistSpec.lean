import Mathlib.Probability.Distributions.Exponential
import Mathlib.Probability.Distributions.Gamma
import Mathlib.Probability.Distributions.Gaussian.Real
import Mathlib.Probability.Distributions.Geometric
import Mathlib.Probability.Distributions.Uniform
import Mathlib.Analysis.SpecialFunctions.Log.Basic
import Mathlib.Analysis.SpecialFunctions.Exp
/-!
  C13: the documented parameterisations of the built-in distributions, as real-valued spec
  densities / mass functions, and their normalisation.  The Python harness (harness/props/c13.py)
  compares `dist.logpdf` in float64 with the SAME closed forms: as scipy references (`table()`) and
  as the printed terms of `Model/DistExpr.lean`, which `Proofs/DistExpr.lean` proves to denote the
  functions defined here.
  Naming: `<dist>Pmf` / `<dist>Pdf` take the documented parameters in the documented order.
-/
open Real MeasureTheory ProbabilityTheory

namespace Genjax.DistSpec

/-- flip(p): P(True) = p, P(False) = 1 − p -/
noncomputable def flipPmf (p : ℝ) (b : Bool) : ℝ := if b then p else 1 - p

/-- bernoulli(logits): P(1) = σ(l) = 1/(1+e^{−l}), P(0) = 1 − σ(l) -/
noncomputable def bernoulliLogitsPmf (l : ℝ) (k : Bool) : ℝ :=
  if k then 1 / (1 + Real.exp (-l)) else 1 - 1 / (1 + Real.exp (-l))

/-- categorical(logits): P(k) = e^{θ_k} / Σ_j e^{θ_j} -/
noncomputable def categoricalPmf {n : ℕ} (θ : Fin n → ℝ) (k : Fin n) : ℝ :=
  Real.exp (θ k) / ∑ j, Real.exp (θ j)

/-- geometric(probs = p): number of FAILURES before the first success, P(k) = (1−p)^k p, k = 0,1,… -/
noncomputable def geometricPmf (p : ℝ) (k : ℕ) : ℝ := (1 - p) ^ k * p

/-- poisson(rate λ): P(k) = e^{−λ} λ^k / k! -/
noncomputable def poissonPmf (r : ℝ) (k : ℕ) : ℝ := Real.exp (-r) * r ^ k / (k.factorial : ℝ)

/-- binomial(total_count n, probs p): P(k) = C(n,k) p^k (1−p)^{n−k} -/
noncomputable def binomialPmf (n : ℕ) (p : ℝ) (k : ℕ) : ℝ := (n.choose k : ℝ) * p ^ k * (1 - p) ^ (n - k)

/-- exponential(rate r): density r e^{−r x} on x ≥ 0 -/
noncomputable def exponentialPdf (r x : ℝ) : ℝ := if 0 ≤ x then r * Real.exp (-(r * x)) else 0

/-- uniform(low a, high b): density 1/(b−a) on [a,b] -/
noncomputable def uniformPdf (a b x : ℝ) : ℝ := if a ≤ x ∧ x ≤ b then 1 / (b - a) else 0

/-- normal(loc μ, scale σ) -/
noncomputable def normalPdf (μ σ x : ℝ) : ℝ :=
  (Real.sqrt (2 * π * σ ^ 2))⁻¹ * Real.exp (-(x - μ) ^ 2 / (2 * σ ^ 2))

theorem flip_normalised (p : ℝ) : flipPmf p true + flipPmf p false = 1 := by
  simp [flipPmf]

theorem bernoulliLogits_normalised (l : ℝ) :
    bernoulliLogitsPmf l true + bernoulliLogitsPmf l false = 1 := by
  simp [bernoulliLogitsPmf]

/-- logits parameterisation: odds P(1)/P(0) = e^{l} -/
theorem bernoulliLogits_odds (l : ℝ) :
    bernoulliLogitsPmf l true = Real.exp l * bernoulliLogitsPmf l false := by
  have h : (1 + Real.exp (-l)) ≠ 0 := (add_pos zero_lt_one (Real.exp_pos _)).ne'
  simp only [bernoulliLogitsPmf, if_true, Bool.false_eq_true, if_false]
  rw [one_sub_div h, add_sub_cancel_left, mul_div_assoc', ← Real.exp_add, add_neg_cancel,
    Real.exp_zero]

theorem categorical_normalised {n : ℕ} (θ : Fin n → ℝ) (hn : 0 < n) :
    ∑ k, categoricalPmf θ k = 1 := by
  have : Nonempty (Fin n) := ⟨⟨0, hn⟩⟩
  have hpos : 0 < ∑ j, Real.exp (θ j) :=
    Finset.sum_pos (fun j _ => Real.exp_pos _) Finset.univ_nonempty
  simp only [categoricalPmf]
  rw [← Finset.sum_div]
  exact div_self hpos.ne'

theorem geometric_normalised (p : ℝ) (hp0 : 0 < p) (hp1 : p ≤ 1) :
    HasSum (geometricPmf p) 1 := by
  have h := (hasSum_geometric_of_lt_one (sub_nonneg.2 hp1) (sub_lt_self 1 hp0)).mul_right p
  rwa [sub_sub_cancel, inv_mul_cancel₀ hp0.ne'] at h

theorem poisson_normalised (r : ℝ) : HasSum (poissonPmf r) 1 := by
  have h := (NormedSpace.expSeries_div_hasSum_exp (r : ℝ)).mul_left (Real.exp (-r))
  rw [← Real.exp_eq_exp_ℝ, ← Real.exp_add, neg_add_cancel, Real.exp_zero] at h
  have e : poissonPmf r = fun i : ℕ => Real.exp (-r) * (r ^ i / (i.factorial : ℝ)) := by
    funext i
    simp only [poissonPmf, mul_div_assoc]
  rw [e]
  exact h

theorem binomial_normalised (n : ℕ) (p : ℝ) :
    ∑ k ∈ Finset.range (n + 1), binomialPmf n p k = 1 := by
  have h := add_pow p (1 - p) n
  rw [add_sub_cancel, one_pow] at h
  rw [h]
  refine Finset.sum_congr rfl (fun k _ => ?_)
  simp only [binomialPmf]
  ring

theorem exponential_normalised (r : ℝ) (hr : 0 < r) :
    ∫⁻ x, ENNReal.ofReal (exponentialPdf r x) = 1 := by
  rw [← lintegral_exponentialPDF_eq_one hr]
  refine lintegral_congr (fun x => ?_)
  rw [exponentialPDF_eq]
  rfl

theorem uniform_normalised (a b : ℝ) (hab : a < b) :
    ∫⁻ x, ENNReal.ofReal (uniformPdf a b x) = 1 := by
  have h : ∀ x, ENNReal.ofReal (uniformPdf a b x) =
      (Set.Icc a b).indicator (fun _ => ENNReal.ofReal (1 / (b - a))) x := fun x => by
    rw [uniformPdf, apply_ite ENNReal.ofReal, ENNReal.ofReal_zero, Set.indicator_apply]
    rfl
  simp only [h]
  rw [lintegral_indicator_const measurableSet_Icc, Real.volume_Icc,
    ← ENNReal.ofReal_mul (one_div_pos.2 (sub_pos.2 hab)).le,
    one_div_mul_cancel (sub_pos.2 hab).ne', ENNReal.ofReal_one]

/-! ### two general facts, used here and in `DistSpec2.lean` … `DistSpec4.lean` -/

theorem ite_zero_nonneg {c : Prop} [Decidable c] {v : ℝ} (h : c → 0 ≤ v) :
    0 ≤ if c then v else 0 := by
  split_ifs with hc
  · exact h hc
  · exact le_rfl

theorem lintegral_ofReal_eq_one {α : Type*} [MeasurableSpace α] {μ : Measure α} {f : α → ℝ}
    (hf : ∀ x, 0 ≤ f x) (h : ∫ x, f x ∂μ = 1) : ∫⁻ x, ENNReal.ofReal (f x) ∂μ = 1 := by
  rw [← ofReal_integral_eq_lintegral_ofReal
    (Integrable.of_integral_ne_zero (h ▸ one_ne_zero)) (ae_of_all _ hf), h, ENNReal.ofReal_one]

/-! ### normal -/

theorem normalPdf_nonneg (μ σ x : ℝ) : 0 ≤ normalPdf μ σ x :=
  mul_nonneg (inv_nonneg.2 (Real.sqrt_nonneg _)) (Real.exp_pos _).le

theorem normalPdf_integral (μ σ : ℝ) (hσ : 0 < σ) : ∫ x, normalPdf μ σ x = 1 := by
  have hv : (⟨σ ^ 2, sq_nonneg σ⟩ : NNReal) ≠ 0 := fun h =>
    (pow_pos hσ 2).ne' (congrArg NNReal.toReal h)
  exact integral_gaussianPDFReal_eq_one μ hv

theorem normal_normalised (μ σ : ℝ) (hσ : 0 < σ) :
    ∫⁻ x, ENNReal.ofReal (normalPdf μ σ x) = 1 :=
  lintegral_ofReal_eq_one (normalPdf_nonneg μ σ) (normalPdf_integral μ σ hσ)

theorem sqrt_two_pi_sq (σ : ℝ) (hσ : 0 < σ) : Real.sqrt (2 * π * σ ^ 2) = Real.sqrt (2 * π) * σ := by
  rw [Real.sqrt_mul' _ (sq_nonneg σ), Real.sqrt_sq hσ.le]

/-- normal takes a standard deviation -/
theorem normal_loc_scale (μ σ x : ℝ) (hσ : 0 < σ) :
    normalPdf μ σ x = 1 / σ * normalPdf 0 1 ((x - μ) / σ) := by
  simp only [normalPdf, sub_zero, one_pow, mul_one]
  rw [sqrt_two_pi_sq σ hσ, mul_inv, div_pow, neg_div, neg_div (2:ℝ), div_div, mul_comm (σ ^ 2),
    one_div, ← mul_assoc, mul_comm σ⁻¹]

end Genjax.DistSpec

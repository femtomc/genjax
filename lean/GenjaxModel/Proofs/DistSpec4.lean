import GenjaxModel.Proofs.DistSpec
import Mathlib.Analysis.Matrix.Order
import Mathlib.MeasureTheory.Integral.Pi
/-!
  C13: multivariate_normal(loc, covariance_matrix) on ℝ^k: documented density, total mass
  one for every positive definite covariance (whitening change of variables x = μ + Bᵀ z with
  Σ = Bᵀ B, then Fubini on the standard Gaussian), and the lemma pinning that the matrix argument
  is a covariance (diagonal case = independent normals with standard deviations σ_i), which is the
  whitening identity `mvn_whiten` at B = diag σ.
-/
open Real MeasureTheory ProbabilityTheory Matrix
open scoped MatrixOrder

namespace Genjax.DistSpec

/-- multivariate_normal(loc μ, covariance_matrix Σ) on ℝ^k -/
noncomputable def multivariateNormalPdf {k : ℕ} (μ : Fin k → ℝ) (S : Matrix (Fin k) (Fin k) ℝ)
    (x : Fin k → ℝ) : ℝ :=
  (2 * π) ^ (-(k : ℝ) / 2) * |S.det| ^ (-(1 / 2 : ℝ)) *
    Real.exp (-(1 / 2) * ((x - μ) ⬝ᵥ (S⁻¹ *ᵥ (x - μ))))

theorem multivariateNormalPdf_nonneg {k : ℕ} (μ : Fin k → ℝ) (S : Matrix (Fin k) (Fin k) ℝ)
    (x : Fin k → ℝ) : 0 ≤ multivariateNormalPdf μ S x := by
  simp only [multivariateNormalPdf]
  positivity

theorem posDef_exists_factor {k : ℕ} (S : Matrix (Fin k) (Fin k) ℝ) (hS : S.PosDef) :
    ∃ B : Matrix (Fin k) (Fin k) ℝ, S = Bᵀ * B ∧ B.det ≠ 0 := by
  obtain ⟨B, hB⟩ := CStarAlgebra.nonneg_iff_eq_star_mul_self.mp hS.posSemidef.nonneg
  rw [star_eq_conjTranspose, conjTranspose_eq_transpose_of_trivial] at hB
  refine ⟨B, hB, fun h0 => hS.det_pos.ne' ?_⟩
  rw [hB, det_mul, h0, mul_zero]

theorem prod_normalPdf_std {k : ℕ} (z : Fin k → ℝ) :
    ∏ i, normalPdf 0 1 (z i) = (2 * π) ^ (-(k : ℝ) / 2) * Real.exp (-(1 / 2) * (z ⬝ᵥ z)) := by
  simp only [normalPdf, sub_zero, one_pow, mul_one]
  rw [Finset.prod_mul_distrib, Finset.prod_const, Finset.card_univ, Fintype.card_fin,
    ← Real.exp_sum]
  congr 1
  · rw [Real.sqrt_eq_rpow, ← Real.rpow_neg (by positivity), ← Real.rpow_natCast,
      ← Real.rpow_mul (by positivity)]
    congr 1; ring
  · congr 1
    simp only [dotProduct, Finset.mul_sum]
    refine Finset.sum_congr rfl (fun i _ => ?_)
    ring

theorem stdMvn_lintegral (k : ℕ) :
    ∫⁻ z : Fin k → ℝ, ENNReal.ofReal (∏ i, normalPdf 0 1 (z i)) = 1 := by
  refine lintegral_ofReal_eq_one
    (fun z => Finset.prod_nonneg (fun i _ => normalPdf_nonneg 0 1 (z i))) ?_
  rw [integral_fintype_prod_volume_eq_prod (fun _ : Fin k => normalPdf 0 1)]
  simp only [normalPdf_integral 0 1 one_pos, Finset.prod_const_one]

theorem mvn_quadform {k : ℕ} (B : Matrix (Fin k) (Fin k) ℝ) (hB : B.det ≠ 0) (z : Fin k → ℝ) :
    (Bᵀ *ᵥ z) ⬝ᵥ ((Bᵀ * B)⁻¹ *ᵥ (Bᵀ *ᵥ z)) = z ⬝ᵥ z := by
  have hBu : IsUnit B.det := isUnit_iff_ne_zero.mpr hB
  have hBtu : IsUnit Bᵀ.det := by rw [det_transpose]; exact hBu
  have e1 : (Bᵀ * B)⁻¹ * Bᵀ = B⁻¹ := by
    rw [Matrix.mul_inv_rev, Matrix.mul_assoc, Matrix.nonsing_inv_mul _ hBtu, Matrix.mul_one]
  rw [mulVec_mulVec, e1, mulVec_transpose, ← dotProduct_mulVec, mulVec_mulVec,
    Matrix.mul_nonsing_inv _ hBu, one_mulVec]

/-- whitening: at `x = μ + Bᵀ z` the density with covariance `Bᵀ B` is the standard Gaussian
density at `z` over `|det B|` -/
theorem mvn_whiten {k : ℕ} (B : Matrix (Fin k) (Fin k) ℝ) (hB : B.det ≠ 0) (μ z : Fin k → ℝ) :
    multivariateNormalPdf μ (Bᵀ * B) (μ + Bᵀ *ᵥ z) = |B.det|⁻¹ * ∏ i, normalPdf 0 1 (z i) := by
  rw [prod_normalPdf_std, multivariateNormalPdf, add_sub_cancel_left, mvn_quadform B hB z, det_mul,
    det_transpose, abs_mul, ← sq, ← Real.rpow_natCast, ← Real.rpow_mul (abs_nonneg _),
    show ((2 : ℕ) : ℝ) * (-(1 / 2 : ℝ)) = -1 by norm_num, Real.rpow_neg_one,
    mul_comm _ |B.det|⁻¹, mul_assoc]

theorem lintegral_linear_change {k : ℕ} (A : Matrix (Fin k) (Fin k) ℝ) (hA : A.det ≠ 0)
    (μ : Fin k → ℝ) (G : (Fin k → ℝ) → ENNReal) :
    ∫⁻ x, G x = ∫⁻ z, ENNReal.ofReal |A.det| * G (μ + A *ᵥ z) := by
  have hemb : MeasurableEmbedding (Matrix.toLin' A) :=
    (LinearMap.continuous_of_finiteDimensional _).measurableEmbedding
      (Matrix.mulVec_injective_of_isUnit ((Matrix.isUnit_iff_isUnit_det A).2 hA.isUnit))
  have h := hemb.lintegral_map (μ := volume) (fun x => G (μ + x))
  rw [Real.map_matrix_volume_pi_eq_smul_volume_pi hA, lintegral_smul_measure,
    lintegral_add_left_eq_self G μ] at h
  simp only [Matrix.toLin'_apply] at h
  rw [lintegral_const_mul' _ _ ENNReal.ofReal_ne_top, ← h, smul_eq_mul, ← mul_assoc,
    ← ENNReal.ofReal_mul (abs_nonneg _), abs_inv, mul_inv_cancel₀ (abs_ne_zero.2 hA),
    ENNReal.ofReal_one, one_mul]

theorem multivariateNormal_normalised {k : ℕ} (μ : Fin k → ℝ) (S : Matrix (Fin k) (Fin k) ℝ)
    (hS : S.PosDef) : ∫⁻ x, ENNReal.ofReal (multivariateNormalPdf μ S x) = 1 := by
  obtain ⟨B, rfl, hB⟩ := posDef_exists_factor S hS
  rw [lintegral_linear_change Bᵀ (by rwa [det_transpose]) μ, ← stdMvn_lintegral k]
  refine lintegral_congr (fun z => ?_)
  rw [mvn_whiten B hB, ← ENNReal.ofReal_mul (abs_nonneg _), det_transpose, ← mul_assoc,
    mul_inv_cancel₀ (abs_ne_zero.2 hB), one_mul]

/-- the matrix argument is a COVARIANCE: a diagonal covariance `diag(σ_i²)` gives independent
normal(μ_i, σ_i) coordinates -/
theorem multivariateNormal_diagonal {k : ℕ} (μ σ : Fin k → ℝ) (hσ : ∀ i, 0 < σ i) (x : Fin k → ℝ) :
    multivariateNormalPdf μ (diagonal fun i => σ i ^ 2) x = ∏ i, normalPdf (μ i) (σ i) (x i) := by
  have hdet : 0 < (diagonal σ).det := by
    rw [det_diagonal]; exact Finset.prod_pos (fun i _ => hσ i)
  have hS : (diagonal fun i => σ i ^ 2) = (diagonal σ)ᵀ * diagonal σ := by
    rw [diagonal_transpose, diagonal_mul_diagonal]
    simp only [sq]
  have hx : x = μ + (diagonal σ)ᵀ *ᵥ (fun i => (x i - μ i) / σ i) := by
    funext i
    rw [diagonal_transpose, Pi.add_apply, mulVec_diagonal, mul_div_cancel₀ _ (hσ i).ne',
      add_sub_cancel]
  rw [hS]
  nth_rewrite 1 [hx]
  rw [mvn_whiten _ hdet.ne', abs_of_pos hdet, det_diagonal, ← Finset.prod_inv_distrib,
    ← Finset.prod_mul_distrib]
  exact Finset.prod_congr rfl (fun i _ => by rw [normal_loc_scale _ _ _ (hσ i), one_div])

end Genjax.DistSpec

import GenjaxModel.Proofs.KalmanMatrix
import Mathlib.Tactic.FinCases
import Mathlib.Analysis.Matrix.PosDef
import Mathlib.Algebra.Order.Star.Real
import Mathlib.Analysis.Real.Sqrt
import Mathlib.Analysis.SpecialFunctions.Exp
import Mathlib.Analysis.SpecialFunctions.Log.Basic
import Mathlib.Analysis.SpecialFunctions.Trigonometric.Basic
/-!
  C20 (Kalman, matrix case) over ℝ: positive (semi)definiteness is preserved by every step, the
  invertibility hypotheses of `Proofs/KalmanMatrix.lean` hold automatically for positive definite
  `P`, `R`, and the update is Bayes' rule for multivariate normal DENSITIES (not only exponents):

      N(x; m, P) · N(y; C x, R) = N(y − C m; 0, S) · N(x; m', P')          for all x, y.

  `logGaussPdf` is `jax.scipy.stats.multivariate_normal.logpdf`, the term the code adds to
  `log_marginal`.
-/
set_option linter.unusedSectionVars false
noncomputable section
namespace Genjax.KalmanMatrix
open Matrix

variable {n p : Type*} [Fintype n] [DecidableEq n] [Fintype p] [DecidableEq p]

/-! ## positive (semi)definiteness -/

section psd

theorem posSemidef_mul_mul_transpose {P : Matrix n n ℝ} (hP : P.PosSemidef) (B : Matrix p n ℝ) :
    (B * P * Bᵀ).PosSemidef :=
  conjTranspose_eq_transpose_of_trivial B ▸ hP.mul_mul_conjTranspose_same B

theorem posDef_isUnit_det {P : Matrix n n ℝ} (hP : P.PosDef) : IsUnit P.det :=
  hP.det_pos.ne'.isUnit

theorem posSemidef_isSymm {P : Matrix n n ℝ} (hP : P.PosSemidef) : P.IsSymm :=
  isHermitian_iff_isSymm.mp hP.isHermitian

variable (C : Matrix p n ℝ) (P : Matrix n n ℝ) (R : Matrix p p ℝ)

theorem innovCov_posSemidef (hP : P.PosSemidef) (hR : R.PosSemidef) :
    (innovCov C P R).PosSemidef :=
  (posSemidef_mul_mul_transpose hP C).add hR

theorem innovCov_posDef (hP : P.PosSemidef) (hR : R.PosDef) : (innovCov C P R).PosDef :=
  PosDef.posSemidef_add (posSemidef_mul_mul_transpose hP C) hR

/-- by the Joseph form -/
theorem updCov_posSemidef (hP : P.PosSemidef) (hR : R.PosSemidef)
    (hS : IsUnit (innovCov C P R).det) : (updCov C P R).PosSemidef := by
  rw [updCov_joseph C P R hS]
  exact (posSemidef_mul_mul_transpose hP _).add (posSemidef_mul_mul_transpose hR _)

/-- by the precision form -/
theorem updCov_posDef (hP : P.PosDef) (hR : R.PosDef) : (updCov C P R).PosDef := by
  rw [← posDef_inv_iff, updCov_inv C P R (posDef_isUnit_det hP) (posDef_isUnit_det hR)
    (posDef_isUnit_det (innovCov_posDef C P R hP.posSemidef hR))]
  refine hP.inv.add_posSemidef ?_
  have h := posSemidef_mul_mul_transpose hR.inv.posSemidef Cᵀ
  rwa [transpose_transpose] at h

theorem smCov_posSemidef (A P Q Ps : Matrix n n ℝ) (hP : P.PosSemidef) (hQ : Q.PosSemidef)
    (hS : IsUnit (predCov A P Q).det) (hPs : Ps.PosSemidef) : (smCov A P Q Ps).PosSemidef := by
  rw [smCov_eq_updCov_add A P Q (posSemidef_isSymm hP) (posSemidef_isSymm hQ) hS]
  exact (updCov_posSemidef A P Q hP hQ hS).add (posSemidef_mul_mul_transpose hPs _)

end psd

/-! ## multivariate normal densities -/

section density

def gaussPdf {ι : Type*} [Fintype ι] [DecidableEq ι] (μ : ι → ℝ) (Sig : Matrix ι ι ℝ)
    (x : ι → ℝ) : ℝ :=
  Real.exp (-(1 / 2) * qf Sig⁻¹ (x - μ)) / Real.sqrt ((2 * Real.pi) ^ Fintype.card ι * Sig.det)

/-- `multivariate_normal.logpdf(x, μ, Σ) = -½ (d log 2π + log det Σ + (x-μ)ᵀ Σ⁻¹ (x-μ))` -/
def logGaussPdf {ι : Type*} [Fintype ι] [DecidableEq ι] (μ : ι → ℝ) (Sig : Matrix ι ι ℝ)
    (x : ι → ℝ) : ℝ :=
  -(1 / 2) * (Fintype.card ι * Real.log (2 * Real.pi) + Real.log Sig.det + qf Sig⁻¹ (x - μ))

theorem gaussPdf_eq_exp {ι : Type*} [Fintype ι] [DecidableEq ι] (μ : ι → ℝ) (Sig : Matrix ι ι ℝ)
    (x : ι → ℝ) (h : 0 < Sig.det) : gaussPdf μ Sig x = Real.exp (logGaussPdf μ Sig x) := by
  have h2 : (0 : ℝ) < (2 * Real.pi) ^ Fintype.card ι := pow_pos (by positivity) _
  rw [gaussPdf, logGaussPdf, ← Real.exp_log (Real.sqrt_pos.2 (mul_pos h2 h)), ← Real.exp_sub,
    Real.log_sqrt (mul_pos h2 h).le, Real.log_mul h2.ne' h.ne', Real.log_pow]
  congr 1
  ring

variable (C : Matrix p n ℝ) (P : Matrix n n ℝ) (R : Matrix p p ℝ)

theorem updCov_det_pos (hP : 0 < P.det) (hR : 0 < R.det) (hS : 0 < (innovCov C P R).det) :
    0 < (updCov C P R).det :=
  (pos_iff_pos_of_mul_pos (update_normaliser C P R hS.ne'.isUnit ▸ mul_pos hP hR)).mp hS

/-- Bayes' rule for the log-densities: why `log_marginal += logpdf(innovation, 0, S)` accumulates
    the exact log marginal likelihood `log p(y_t | y_{1:t-1})` -/
theorem update_bayes_logpdf (hPs : P.IsSymm) (hRs : R.IsSymm) (hP : 0 < P.det) (hR : 0 < R.det)
    (hS : 0 < (innovCov C P R).det) (m x : n → ℝ) (y : p → ℝ) :
    logGaussPdf m P x + logGaussPdf (C *ᵥ x) R y =
      logGaussPdf 0 (innovCov C P R) (innov C m y) +
        logGaussPdf (updMean C P R m y) (updCov C P R) x := by
  have hsq := update_completes_square C P R hPs hRs hP.ne'.isUnit hR.ne'.isUnit hS.ne'.isUnit m x y
  have hlog := congrArg Real.log (update_normaliser C P R hS.ne'.isUnit)
  rw [Real.log_mul hP.ne' hR.ne', Real.log_mul hS.ne' (updCov_det_pos C P R hP hR hS).ne'] at hlog
  unfold logGaussPdf
  rw [sub_zero]
  linear_combination (-(1 / 2 : ℝ)) * hsq + (-(1 / 2 : ℝ)) * hlog

theorem update_bayes_density (hPs : P.IsSymm) (hRs : R.IsSymm) (hP : 0 < P.det) (hR : 0 < R.det)
    (hS : 0 < (innovCov C P R).det) (m x : n → ℝ) (y : p → ℝ) :
    gaussPdf m P x * gaussPdf (C *ᵥ x) R y =
      gaussPdf 0 (innovCov C P R) (innov C m y) *
        gaussPdf (updMean C P R m y) (updCov C P R) x := by
  rw [gaussPdf_eq_exp _ _ _ hP, gaussPdf_eq_exp _ _ _ hR, gaussPdf_eq_exp _ _ _ hS,
    gaussPdf_eq_exp _ _ _ (updCov_det_pos C P R hP hR hS), ← Real.exp_add, ← Real.exp_add,
    update_bayes_logpdf C P R hPs hRs hP hR hS]

end density

/-! ## A concrete real instance (non-vacuity of the positive-definite theorems) -/

namespace ExampleReal

def P : Matrix (Fin 2) (Fin 2) ℝ := diagonal ![2, 3]
def C : Matrix (Fin 1) (Fin 2) ℝ := !![1, 1]
def R : Matrix (Fin 1) (Fin 1) ℝ := 1

theorem P_posDef : P.PosDef :=
  posDef_diagonal_iff.2 fun i => by fin_cases i <;> simp

theorem R_posDef : R.PosDef := PosDef.one

end ExampleReal

end Genjax.KalmanMatrix

import GenjaxModel.Model.Kalman
import Mathlib.Algebra.Field.Basic
import Mathlib.Tactic.Ring
/-!
  C20 (Kalman, scalar case): the update step is exact Bayesian conditioning.
  For a Gaussian prior N(m, P) and likelihood y | x ~ N(c x, r) Bayes' rule
  prior(x)·lik(y|x) = marg(y)·post(x) holds for all x iff (i) the exponents agree as quadratic
  forms in x and (ii) the normalising constants agree.  (ii) is proved here as an identity in any
  field; (i) is the case `n = p = 1` of the matrix theorem
  (`KalmanMatrix.scalar_completes_square_of_matrix`).
-/
namespace Genjax.Kalman
variable {K : Type} [Field K]

/-- (ii) the normalisers agree: P · r = S · P' (so sqrt(2πP)·sqrt(2πr) = sqrt(2πS)·sqrt(2πP')) -/
theorem update_normaliser (c r y : K) (s : Gauss K) (hS : innovCov c r s ≠ 0) :
    s.P * r = innovCov c r s * (update c r y s).P := by
  simp only [update]
  -- `S · (P − k c P) = S P − (k S) c P` and the gain satisfies `k S = P c`
  rw [mul_sub, ← mul_assoc, ← mul_assoc, mul_div_cancel₀ _ hS, innovCov]
  ring

/-- closed form of the filtered variance: P' = P r / S -/
theorem update_P_eq (c r y : K) (s : Gauss K) (hS : innovCov c r s ≠ 0) :
    (update c r y s).P = s.P * r / innovCov c r s := by
  rw [update_normaliser c r y s hS, mul_div_cancel_left₀ _ hS]

/-- the filtered variance is non-zero (so dividing by it in the conditioning identities is genuine) -/
theorem update_P_ne_zero (c r y : K) (s : Gauss K)
    (hP : s.P ≠ 0) (hr : r ≠ 0) (hS : innovCov c r s ≠ 0) : (update c r y s).P ≠ 0 := by
  rw [update_P_eq c r y s hS]
  exact div_ne_zero (mul_ne_zero hP hr) hS

end Genjax.Kalman

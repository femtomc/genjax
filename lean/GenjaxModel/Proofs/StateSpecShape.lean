import GenjaxModel.Proofs.StateSpec
/-!
  WHICH paths a program saves to (and whether it raises) does not depend on the iteration indices /
  vmap sizes (`saves_shape_both`). `Props/C19.lean` draws the consequence
  (`C19_scan_event_is_stack_of_iterations`): every iteration of a scan writes the same paths and the
  `getD` default inside `stackEvents` / `stackStores` is never used.
-/
namespace Genjax.State

def keys (s : Store) : List Path := s.map (·.1)

def setKeys (ks : List Path) (p : Path) : List Path := ks.filter (fun k => !(isPrefix p k)) ++ [p]

theorem keys_set (s : Store) (p : Path) (v : SV) : keys (Store.set s p v) = setKeys (keys s) p := by
  rw [setKeys, keys, keys, List.filter_map, Store.set, List.map_append]; rfl

theorem keys_applyEvents (evs : List Event) (s : Store) :
    keys (applyEvents evs s) = (evs.map (·.1)).foldl setKeys (keys s) := by
  induction evs generalizing s with
  | nil => rfl
  | cons e evs ih => exact (ih _).trans (congrArg (List.foldl setKeys · _) (keys_set s e.1 e.2))

theorem keys_collectEvents (evs : List Event) :
    keys (collectEvents evs) = (evs.map (·.1)).foldl setKeys [] := keys_applyEvents evs []

theorem keys_stackEvents (iters : List Store) :
    keys (stackEvents iters) = ((iters.map keys).head?).getD [] := by
  cases iters with
  | nil => rfl
  | cons first rest => exact List.map_map ..

theorem get_of_mem_keys (s : Store) (q : Path) (h : q ∈ keys s) :
    s.get? q = some ((s.lookup q).getD (SV.stack [])) := by
  obtain ⟨e, he, rfl⟩ := List.mem_map.mp h
  obtain ⟨x, hx⟩ := Option.isSome_iff_exists.mp
    (List.find?_isSome.mpr ⟨e, he, beq_self_eq_true e.1⟩ : (s.find? fun e' => e'.1 == e.1).isSome)
  rw [lookup_eq_get, Store.get?, hx]; rfl

/-- paths of the events, and the namespace stack afterwards -/
def shape (r : List Event × List String) : List Path × List String := (r.1.map (·.1), r.2)

/-- the outcome of a saver, up to `shape`, does not depend on indices and lane sizes -/
def SavesShape (f : Saver) : Prop :=
  ∀ (outer ns : List String) (idx lanes idx' lanes' : List Nat),
    (f outer ns idx lanes).map shape = (f outer ns idx' lanes').map shape

theorem Saver.seq_shape (f g : Saver) (outer ns : List String) (idx lanes : List Nat) :
    ((f.seq g) outer ns idx lanes).map shape =
      ((f outer ns idx lanes).map shape).bind fun sh1 =>
        ((g outer sh1.2 idx lanes).map shape).map fun sh2 => (sh1.1 ++ sh2.1, sh2.2) := by
  rw [Saver.seq]
  cases f outer ns idx lanes with
  | none => rfl
  | some r1 =>
    show ((g outer r1.2 idx lanes).bind _).map shape = ((g outer r1.2 idx lanes).map shape).map _
    cases g outer r1.2 idx lanes with
    | none => rfl
    | some r2 => exact congrArg (fun l => some (l, r2.2)) List.map_append

theorem SavesShape.seq {f g : Saver} (hf : SavesShape f) (hg : SavesShape g) :
    SavesShape (f.seq g) := by
  intro outer ns idx lanes idx' lanes'
  rw [Saver.seq_shape, Saver.seq_shape, hf outer ns idx lanes idx' lanes']
  exact congrArg _ (funext fun sh1 => congrArg _ (hg outer sh1.2 idx lanes idx' lanes'))

theorem Saver.scan_shape (g : Saver) (n : Nat) (outer ns : List String) (idx lanes : List Nat) :
    ((g.scan n) outer ns idx lanes).map shape =
      ((List.range n).mapM fun i => (g (outer ++ ns) [] (idx ++ [i]) lanes).map shape).map fun shs =>
        (((shs.map fun sh => sh.1.foldl setKeys []).head?).getD [], ns) := by
  rw [Saver.scan, mapM_option_map, Option.map_map, Option.map_map]
  refine congrArg (Option.map · _) (funext fun rs => ?_)
  show (keys (stackEvents (rs.map _)), ns) = ((((rs.map shape).map _).head?).getD [], ns)
  rw [keys_stackEvents, List.map_map, List.map_map]
  exact congrArg (fun f => (((rs.map f).head?).getD [], ns)) (funext fun r => keys_collectEvents r.1)

theorem SavesShape.scan {g : Saver} (hg : SavesShape g) (n : Nat) : SavesShape (g.scan n) := by
  intro outer ns idx lanes idx' lanes'
  rw [Saver.scan_shape, Saver.scan_shape,
    funext fun i => hg (outer ++ ns) [] (idx ++ [i]) lanes (idx' ++ [i]) lanes']

theorem saves_shape_both : (∀ s : SP, SavesShape s.saves) ∧ (∀ p : SPL, SavesShape p.saves) :=
  SP.rec_both (m1 := fun s => SavesShape s.saves) (m2 := fun p => SavesShape p.saves)
    (tag := fun _ _ _ _ _ _ _ _ => rfl)
    (leafTag := fun _ _ ns _ _ _ _ => by cases ns <;> rfl)
    (push := fun _ _ _ _ _ _ _ => rfl)
    (pop := fun _ _ _ _ _ _ => rfl)
    (scan := fun body n ih => SP.saves_scan body n ▸ ih.scan n)
    (vmap := fun _ n ih outer ns idx lanes idx' lanes' =>
      ih outer ns idx (lanes ++ [n]) idx' (lanes' ++ [n]))
    (other := fun _ _ _ _ _ _ => rfl)
    (nil := fun _ _ _ _ _ _ => rfl)
    (cons := fun _ _ hs hr => hs.seq hr)

theorem SP.saves_shape : (s : SP) → ∀ (outer ns : List String) (idx lanes idx' lanes' : List Nat),
      (s.saves outer ns idx lanes).map shape = (s.saves outer ns idx' lanes').map shape :=
  saves_shape_both.1

end Genjax.State

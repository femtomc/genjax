import GenjaxModel.Proofs.Resample
import Mathlib.MeasureTheory.Integral.IntervalIntegral.Basic
/-!
  C12, the integration step: for a uniformly distributed offset `u ∈ [0,1]` the expected number of
  copies that systematic resampling gives to particle `i` is `N · w_i / Σ w`
  (`C12_integral_floor_sub`, `C12_systematic_unbiased` in `Props/C12.lean`).  Here: the step function
  `u ↦ ⌊a − u⌋` is integrable and constant on either side of the fractional part of `a`.
-/

namespace Genjax.Resample
open MeasureTheory

theorem antitone_floor_sub (a : ℝ) : Antitone fun u : ℝ => ((⌊a - u⌋ : ℤ) : ℝ) :=
  fun _ _ hxy => Int.cast_le.mpr (Int.floor_le_floor (sub_le_sub_left hxy a))

theorem intervalIntegrable_floor_sub (a p q : ℝ) :
    IntervalIntegrable (fun u : ℝ => ((⌊a - u⌋ : ℤ) : ℝ)) volume p q :=
  (antitone_floor_sub a).intervalIntegrable

theorem floor_sub_left (a u : ℝ) (h0 : 0 < u) (h1 : u < Int.fract a) : ⌊a - u⌋ = ⌊a⌋ := by
  rw [Int.floor_eq_iff]
  have := Int.self_sub_floor a
  have := Int.lt_floor_add_one a
  constructor <;> linarith

theorem floor_sub_right (a u : ℝ) (h0 : Int.fract a < u) (h1 : u < 1) : ⌊a - u⌋ = ⌊a⌋ - 1 := by
  rw [Int.floor_eq_iff]
  have := Int.self_sub_floor a
  have := Int.floor_le a
  push_cast
  constructor <;> linarith

end Genjax.Resample

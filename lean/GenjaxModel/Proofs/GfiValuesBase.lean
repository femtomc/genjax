import GenjaxModel.Model.GfiPaths
import GenjaxModel.Proofs.GfiAssessCond
/-!
  Value-level facts about choice maps (C02, C03, C04), basic lemmas: `CM.leafAt` one path segment
  at a time (`CM.sub`), the leafwise `where`-merge of a Cond trace seen from a path
  (`CM.mergeCheck_leafAt`), call sites of a body (`Body.site`, `Body.envAt`), and an induction
  principle over programs that hands the Fn case the property for every call site's callee
  (`GF.induct_sites`).
-/
namespace Genjax

/-! ## `leafAt` -/

theorem CML.leafAtKey_eq (l : CML) (k : String) (p : Path) :
    l.leafAtKey k p = (l.find? k).bind (·.leafAt p) := by
  induction l using CML.list_induction with
  | nil => rfl
  | cons k' v rest ih =>
    simp only [CML.leafAtKey, CML.find?]
    split
    · rfl
    · exact ih

theorem CML.leafAtIdx_eq (l : CML) (i : Nat) (p : Path) :
    l.leafAtIdx i p = (l.toList[i]?).bind (·.leafAt p) := by
  induction l using CML.list_induction generalizing i with
  | nil => rfl
  | cons k' v rest ih =>
    cases i with
    | zero => rfl
    | succ i => exact ih i

theorem CM.leafAt_node_key (l : CML) (k : String) (p : Path) :
    (CM.node l).leafAt (.key k :: p) = (l.find? k).bind (·.leafAt p) :=
  CML.leafAtKey_eq l k p

theorem CM.leafAt_lanes_idx (l : CML) (i : Nat) (p : Path) :
    (CM.lanes l).leafAt (.idx i :: p) = (l.toList[i]?).bind (·.leafAt p) :=
  CML.leafAtIdx_eq l i p

theorem CM.leafAt_node_nil (l : CML) : (CM.node l).leafAt [] = none := rfl

theorem CM.leafAt_node_idx (l : CML) (i : Nat) (p : Path) :
    (CM.node l).leafAt (.idx i :: p) = none := rfl

theorem CM.leafAt_lanes_nil (l : CML) : (CM.lanes l).leafAt [] = none := rfl

theorem CM.leafAt_lanes_key (l : CML) (k : String) (p : Path) :
    (CM.lanes l).leafAt (.key k :: p) = none := rfl

theorem CM.leafAt_leaf_nil (v : Val) : (CM.leaf v).leafAt [] = some v := rfl

theorem CM.leafAt_leaf_cons (v : Val) (s : Seg) (p : Path) : (CM.leaf v).leafAt (s :: p) = none := rfl

theorem CM.leafAt?_node_key (l : CML) (a : String) (p : Path) :
    CM.leafAt? (some (.node l)) (.key a :: p) = CM.leafAt? (l.find? a) p := by
  rw [CM.leafAt?, CM.leafAt_node_key]
  cases l.find? a <;> rfl

/-! ## the discard of a Vmap / Scan, seen from a path -/

theorem CML.toList_ofList (l : List CM) : (CML.ofList l).toList = l := by
  induction l with
  | nil => rfl
  | cons a l ih => simp [CML.ofList, CML.toList, ih]

/-- a lane without discard is kept as an empty dict, which holds no leaf -/
theorem lanesDiscard_leafAt_idx (ds : List (Option CM)) (i : Nat) (p : Path) :
    CM.leafAt? (lanesDiscard ds) (.idx i :: p) = CM.leafAt? ((ds[i]?).getD none) p := by
  unfold lanesDiscard
  split
  · rename_i hall
    cases hi : ds[i]? with
    | none => rfl
    | some o =>
      have := List.all_eq_true.mp hall o (List.mem_of_getElem? hi)
      cases o with
      | none => rfl
      | some c => cases this
  · simp only [CM.leafAt?, CM.leafAt_lanes_idx, CML.toList_ofList, List.getElem?_map]
    cases ds[i]? with
    | none => rfl
    | some o =>
      cases o with
      | none => rcases p with _ | ⟨_ | _, _⟩ <;> rfl
      | some c => rfl

theorem lanesDiscard_leafAt_nil (ds : List (Option CM)) :
    CM.leafAt? (lanesDiscard ds) [] = none := by
  unfold lanesDiscard
  split <;> rfl

theorem lanesDiscard_leafAt_key (ds : List (Option CM)) (k : String) (p : Path) :
    CM.leafAt? (lanesDiscard ds) (.key k :: p) = none := by
  unfold lanesDiscard
  split <;> rfl

/-! ## one step along a path -/

def CM.sub : CM → Seg → Option CM
  | .node l, .key k => l.find? k
  | .lanes l, .idx i => l.toList[i]?
  | _, _ => none

theorem CM.leafAt_cons (x : CM) (s : Seg) (p : Path) :
    x.leafAt (s :: p) = (x.sub s).bind (·.leafAt p) := by
  cases x with
  | leaf _ => rfl
  | node l =>
    cases s with
    | key k => exact CM.leafAt_node_key l k p
    | idx _ => rfl
  | lanes l =>
    cases s with
    | key _ => rfl
    | idx i => exact CM.leafAt_lanes_idx l i p

/-! ## the merge of a Cond trace's two branch maps, seen from a path -/

/-- leafwise `where` with one-sided entries kept -/
def mergeLeaf (c : Bool) : Option Val → Option Val → Option Val
  | some a, some b => some (if c then a else b)
  | some a, none => some a
  | none, o => o

@[simp] theorem mergeLeaf_none_left (c : Bool) (o : Option Val) : mergeLeaf c none o = o := by
  cases o <;> rfl

@[simp] theorem mergeLeaf_none_right (c : Bool) (o : Option Val) : mergeLeaf c o none = o := by
  cases o <;> rfl

/-- `mergeLeaf` for any payload -/
def mergeOpt {α : Type} (c : Bool) : Option α → Option α → Option α
  | some a, some b => some (if c then a else b)
  | some a, none => some a
  | none, o => o

theorem mergeLeaf_eq_mergeOpt (c : Bool) (a b : Option Val) : mergeLeaf c a b = mergeOpt c a b := by
  cases a <;> cases b <;> rfl

theorem mergeOpt_isSome {α : Type} (c : Bool) (a b : Option α) :
    (mergeOpt c a b).isSome = (a.isSome || b.isSome) := by
  cases a <;> cases b <;> rfl

theorem mergeLeaf_isSome (c : Bool) (a b : Option Val) :
    (mergeLeaf c a b).isSome = (a.isSome || b.isSome) := by
  rw [mergeLeaf_eq_mergeOpt, mergeOpt_isSome]

theorem mergeLeaf_self (c : Bool) (a : Option Val) : mergeLeaf c a a = a := by
  cases a <;> simp [mergeLeaf]

theorem mergeLeaf_forall {Q : Val → Prop} {c : Bool} {a b : Option Val}
    (ha : ∀ v, a = some v → Q v) (hb : ∀ v, b = some v → Q v) :
    ∀ v, mergeLeaf c a b = some v → Q v := by
  intro v hv
  cases a with
  | none => exact hb v (by simpa only [mergeLeaf_none_left] using hv)
  | some va =>
    cases b with
    | none => exact ha v hv
    | some vb =>
      cases c
      · exact hb v hv
      · exact ha v hv

theorem CM.mergeCheck_inv {c : Bool} {a b m : CM} (h : CM.mergeCheck c a b = some m) :
    (∃ va vb, a = .leaf va ∧ b = .leaf vb ∧ m = .leaf (if c then va else vb)) ∨
    (∃ la lb lm, a = .node la ∧ b = .node lb ∧ m = .node lm ∧ CML.mergeCheck c la lb = some lm) ∨
    (∃ la lb lm, a = .lanes la ∧ b = .lanes lb ∧ m = .lanes lm ∧
      CML.mergeLanes c la lb = some lm) := by
  cases a <;> cases b <;>
    simp only [CM.mergeCheck, Option.map_eq_some_iff, Option.some.injEq, reduceCtorEq] at h
  · exact .inl ⟨_, _, rfl, rfl, h.symm⟩
  · obtain ⟨lm, hm, rfl⟩ := h
    exact .inr (.inl ⟨_, _, _, rfl, rfl, rfl, hm⟩)
  · obtain ⟨lm, hm, rfl⟩ := h
    exact .inr (.inr ⟨_, _, _, rfl, rfl, rfl, hm⟩)

/-- one look-up (an address of a dict, a position of a vectorised map) in the `where`-merge of two
    maps, given the look-ups in the two: merged where both have it, else the one that has it -/
def MergedAt (c : Bool) : Option CM → Option CM → Option CM → Prop
  | some x, some y, om => ∃ z, CM.mergeCheck c x y = some z ∧ om = some z
  | some x, none, om => om = some x
  | none, ob, om => om = ob

theorem CML.mergeCheck_find (c : Bool) : (a b m : CML) → CML.mergeCheck c a b = some m →
    ∀ k, MergedAt c (a.find? k) (b.find? k) (m.find? k) := by
  intro a
  induction a using CML.list_induction with
  | nil =>
    intro b m h k
    cases h
    rfl
  | cons k0 v rest ih =>
    intro b m h k
    rw [CML.mergeCheck] at h
    split at h
    · rename_i v' hv'
      obtain ⟨mv, hmv, h⟩ := Option.bind_eq_some_iff.mp h
      obtain ⟨r, hr, h⟩ := Option.bind_eq_some_iff.mp h
      cases h
      simp only [CML.find?]
      split
      · rename_i hk
        subst hk
        rw [hv']
        exact ⟨mv, hmv, rfl⟩
      · rename_i hk
        rw [← CML.find?_erase_ne b k0 k hk]
        exact ih (b.erase k0) r hr k
    · rename_i hv'
      obtain ⟨r, hr, h⟩ := Option.bind_eq_some_iff.mp h
      cases h
      simp only [CML.find?]
      split
      · rename_i hk
        subst hk
        rw [hv']
        rfl
      · exact ih b r hr k

theorem CML.mergeLanes_get (c : Bool) : (a b m : CML) → CML.mergeLanes c a b = some m →
    ∀ i : Nat, MergedAt c (a.toList[i]?) (b.toList[i]?) (m.toList[i]?) := by
  intro a
  induction a using CML.list_induction with
  | nil =>
    intro b m h i
    cases b <;> cases h
    rfl
  | cons k0 v rest ih =>
    intro b m h i
    cases b with
    | nil => cases h
    | cons k' v' rest' =>
      rw [CML.mergeLanes] at h
      obtain ⟨mv, hmv, h⟩ := Option.bind_eq_some_iff.mp h
      obtain ⟨r, hr, h⟩ := Option.bind_eq_some_iff.mp h
      cases h
      cases i with
      | zero => exact ⟨mv, hmv, rfl⟩
      | succ i => exact ih rest' r hr i

theorem CM.mergeCheck_sub {c : Bool} {a b m : CM} (h : CM.mergeCheck c a b = some m) (s : Seg) :
    MergedAt c (a.sub s) (b.sub s) (m.sub s) := by
  rcases CM.mergeCheck_inv h with ⟨va, vb, rfl, rfl, rfl⟩ | ⟨la, lb, lm, rfl, rfl, rfl, hl⟩ |
    ⟨la, lb, lm, rfl, rfl, rfl, hl⟩
  · rfl
  · cases s with
    | key k => exact CML.mergeCheck_find c la lb lm hl k
    | idx i => rfl
  · cases s with
    | key k => rfl
    | idx i => exact CML.mergeLanes_get c la lb lm hl i

/-- Whatever is read off a choice map by walking down a path (`F`: the leaf value, the kind of
    node) is, on a `where`-merge, the combination of what is read off the two maps, as soon as this
    holds at the end of the path and a one-sided entry is kept. -/
theorem CM.mergeCheck_at {α : Type} {c : Bool} (F : CM → Path → Option α)
    (comb : Option α → Option α → Option α)
    (hF : ∀ x s p, F x (s :: p) = (x.sub s).bind (F · p))
    (hl : ∀ o, comb none o = o) (hr : ∀ o, comb o none = o)
    (h0 : ∀ a b m, CM.mergeCheck c a b = some m → F m [] = comb (F a []) (F b [])) :
    ∀ (p : Path) (a b m : CM), CM.mergeCheck c a b = some m → F m p = comb (F a p) (F b p) := by
  intro p
  induction p with
  | nil => exact h0
  | cons s p ih =>
    intro a b m h
    have hs := CM.mergeCheck_sub h s
    rw [hF, hF a, hF b]
    cases ha : a.sub s with
    | none =>
      rw [ha] at hs
      rw [show m.sub s = b.sub s from hs]
      exact (hl _).symm
    | some x =>
      cases hb : b.sub s with
      | none =>
        rw [ha, hb] at hs
        rw [show m.sub s = some x from hs]
        exact (hr _).symm
      | some y =>
        rw [ha, hb] at hs
        obtain ⟨z, hz, hm⟩ := hs
        rw [hm]
        exact ih x y z hz

theorem CM.mergeCheck_leafAt (c : Bool) : (a b m : CM) → CM.mergeCheck c a b = some m →
    ∀ p, m.leafAt p = mergeLeaf c (a.leafAt p) (b.leafAt p) := fun a b m h p =>
  CM.mergeCheck_at CM.leafAt (mergeLeaf c) CM.leafAt_cons (mergeLeaf_none_left c)
    (mergeLeaf_none_right c)
    (fun a b m h => by
      rcases CM.mergeCheck_inv h with ⟨va, vb, rfl, rfl, rfl⟩ | ⟨la, lb, lm, rfl, rfl, rfl, _⟩ |
        ⟨la, lb, lm, rfl, rfl, rfl, _⟩ <;> rfl)
    p a b m h

theorem CML.mergeCheck_leafAt (c : Bool) : (a b m : CML) → CML.mergeCheck c a b = some m →
    ∀ k p, m.leafAtKey k p = mergeLeaf c (a.leafAtKey k p) (b.leafAtKey k p) := fun a b m h k p =>
  CM.mergeCheck_leafAt c (.node a) (.node b) (.node m) (by rw [CM.mergeCheck, h]; rfl)
    (.key k :: p)

theorem CML.mergeLanes_leafAt (c : Bool) : (a b m : CML) → CML.mergeLanes c a b = some m →
    ∀ i p, m.leafAtIdx i p = mergeLeaf c (a.leafAtIdx i p) (b.leafAtIdx i p) := fun a b m h i p =>
  CM.mergeCheck_leafAt c (.lanes a) (.lanes b) (.lanes m) (by rw [CM.mergeCheck, h]; rfl)
    (.idx i :: p)

/-! ## choice maps of trace lists, pointwise -/

variable {R : Type}

theorem TrL.choices_find_eq : (l : TrL R) → (xl : CML) → l.choices = some xl →
    ∀ a, xl.find? a = (l.find? a).bind Tr.choices := by
  intro l
  induction l using TrL.list_induction with
  | nil =>
    intro xl h a
    cases h
    rfl
  | cons k t rest ih =>
    intro xl h a
    obtain ⟨c, r, hc, hr, rfl⟩ := TrL.choices_cons.mp h
    simp only [CML.find?, TrL.find?]
    split
    · exact hc.symm
    · exact ih r hr a

theorem TrL.choices_get_eq : (l : TrL R) → (xl : CML) → l.choices = some xl →
    ∀ i : Nat, xl.toList[i]? = (l.toList[i]?).bind Tr.choices := by
  intro l
  induction l using TrL.list_induction with
  | nil =>
    intro xl h i
    cases h
    rfl
  | cons k t rest ih =>
    intro xl h i
    obtain ⟨c, r, hc, hr, rfl⟩ := TrL.choices_cons.mp h
    cases i with
    | zero => exact hc.symm
    | succ i => exact ih r hr i

theorem TrL.choices_length (l : TrL R) (xl : CML) (h : l.choices = some xl) :
    xl.toList.length = l.toList.length :=
  (TrL.choices_toList l xl h).length_eq.symm

theorem TrL.choices_get_some (l : TrL R) (xl : CML) (h : l.choices = some xl) (i : Nat) (t : Tr R)
    (ht : l.toList[i]? = some t) : ∃ c, t.choices = some c ∧ xl.toList[i]? = some c := by
  have hi : i < xl.toList.length :=
    TrL.choices_length l xl h ▸ (List.getElem?_eq_some_iff.mp ht).1
  have hc := TrL.choices_get_eq l xl h i
  rw [ht, List.getElem?_eq_getElem hi] at hc
  exact ⟨_, hc.symm, List.getElem?_eq_getElem hi⟩

/-- the carry entering step `j` of a Scan trace with steps `ts` and initial carry `c`
    (as `stepsCoh` threads it: each step hands on the first component of its return value) -/
def carryAt (c : Val) : List (Tr R) → Nat → Val
  | _, 0 => c
  | [], _ + 1 => c
  | t :: ts, j + 1 => carryAt t.retval.fst ts j

theorem carryG_eq_carryAt {β : Type} (proj : β → Tr R) : ∀ (bs : List β) (c : Val) (j : Nat),
    carryG (fun b => (proj b).retval.fst) c bs j = carryAt c (bs.map proj) j
  | [], _, 0 => rfl
  | _ :: _, _, 0 => rfl
  | [], _, _ + 1 => rfl
  | b :: bs, _, j + 1 => carryG_eq_carryAt proj bs (proj b).retval.fst j

/-! ## call sites of a body -/

/-- the call site of a body at address `a` (the first one; a body that runs has no second) -/
def Body.site : Body → String → Option (GF × List Expr)
  | .ret _, _ => none
  | .call addr g es rest, a => if a = addr then some (g, es) else rest.site a

theorem Body.site_none_of_not_mem (b : Body) (a : String) : a ∉ b.addrs → b.site a = none := by
  induction b using Body.list_induction with
  | ret _ => exact fun _ => rfl
  | call addr g es rest ih =>
    intro h
    have hne : a ≠ addr := fun e => h (e ▸ List.mem_cons_self)
    rw [Body.site, if_neg hne]
    exact ih fun hm => h (List.mem_cons_of_mem _ hm)

/-- the environment in which the arguments of the call site at `a` are evaluated, computed from the
    sub-traces in `subs` (return values of the preceding call sites, as `Body.Coh` threads them) -/
def Body.envAt : Body → List Val → TrL R → String → List Val
  | .ret _, env, _, _ => env
  | .call addr _ _ rest, env, subs, a =>
    if a = addr then env else
    match subs.find? addr with
    | some t => rest.envAt (env ++ [t.retval]) subs a
    | none => env

theorem GF.induct_sites (Q : GF → Prop)
    (dist : ∀ d, Q (.dist d))
    (fn : ∀ body, (∀ a g es, body.site a = some (g, es) → Q g) → Q (.fn body))
    (vmap : ∀ g axes n, Q g → Q (.vmap g axes n))
    (scan : ∀ g n, Q g → Q (.scan g n))
    (cond : ∀ t f, Q t → Q f → Q (.cond t f)) : ∀ g, Q g := by
  intro g
  refine GF.rec (motive_1 := Q)
    (motive_2 := fun b => ∀ a g es, b.site a = some (g, es) → Q g)
    dist fn vmap scan cond ?_ ?_ g
  · intro e a g es h
    simp [Body.site] at h
  · intro addr g es rest ihg ihr a g' es' h
    simp only [Body.site] at h
    split at h
    · simp only [Option.some.injEq, Prod.mk.injEq] at h
      obtain ⟨rfl, _⟩ := h
      exact ihg
    · exact ihr a g' es' h

/-! ## canonical traces by call site and by position; `Tr.sameChecks` by position -/

theorem Body.canonL_site_none : (b : Body) → (tl : TrL R) → b.CanonL tl →
    ∀ a, b.site a = none → tl.find? a = none := by
  intro b
  induction b using Body.list_induction with
  | ret e =>
    intro tl hc a _
    cases tl <;> simp only [Body.CanonL] at hc
    rfl
  | call addr g es rest ih =>
    intro tl hc a h
    cases tl <;> simp only [Body.CanonL] at hc
    rename_i k t tl'
    obtain ⟨rfl, _, hrc⟩ := hc
    simp only [Body.site] at h
    split at h
    · cases h
    · rename_i hne
      simp only [TrL.find?, hne, if_false]
      exact ih tl' hrc a h

theorem Body.canonL_site_some : (b : Body) → (tl : TrL R) → b.CanonL tl →
    ∀ a g es, b.site a = some (g, es) → ∃ t, tl.find? a = some t ∧ g.Canon t := by
  intro b
  induction b using Body.list_induction with
  | ret e =>
    intro tl hc a g es h
    cases h
  | call addr g0 es0 rest ih =>
    intro tl hc a g es h
    cases tl <;> simp only [Body.CanonL] at hc
    rename_i k t tl'
    obtain ⟨rfl, hgc, hrc⟩ := hc
    simp only [Body.site] at h
    split at h
    · rename_i he
      cases h
      exact ⟨t, by simp only [TrL.find?, he, if_true], hgc⟩
    · rename_i hne
      simp only [TrL.find?, hne, if_false]
      exact ih tl' hrc a g es h

theorem lanesCanon_get (p : Tr R → Prop) : (l : TrL R) → lanesCanon p l →
    ∀ (i : Nat) (t : Tr R), l.toList[i]? = some t → p t := by
  intro l
  induction l using TrL.list_induction with
  | nil =>
    intro _ i t h
    cases h
  | cons k t0 rest ih =>
    intro hc i t h
    simp only [lanesCanon] at hc
    cases i with
    | zero =>
      cases h
      exact hc.2.1
    | succ i => exact ih hc.2.2 i t h

theorem TrL.sameChecksPos_get (a b : TrL R) (h : Tr.sameChecks.TrL.sameChecksPos a b) :
    ∀ (i : Nat) (t t' : Tr R), a.toList[i]? = some t → b.toList[i]? = some t' → Tr.sameChecks t t' :=
  (forall₂_iff_getElem?_rel.mp (TrL.sameChecksPos_forall₂ h)).2

end Genjax

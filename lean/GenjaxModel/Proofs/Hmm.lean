import GenjaxModel.Model.Hmm
import Mathlib.Algebra.Field.Basic
import Mathlib.Algebra.Ring.Basic
import Mathlib.Tactic.Ring
/-!
  C20 (discrete HMM).  `forward_bwd`: the last forward message, summed against any weight of the
  last state, is the weighted sum of the joint over all state sequences (`Props/C20.lean` reads off
  the marginal likelihood with weight 1 and the single entries with an indicator).  `ffbs_law`:
  backward sampling returns a state sequence with probability joint / marginal.
-/
namespace Genjax.Hmm

section Semiring
variable {K : Type} [CommSemiring K]

/-! ### algebra of the model's `sum` and `get` -/

theorem sum_append (l m : List K) : sum (l ++ m) = sum l + sum m := by
  induction l with
  | nil => simp only [List.nil_append, sum, zero_add]
  | cons a l ih => simp only [List.cons_append, sum, ih, add_assoc]

theorem sum_map_add {α : Type} (l : List α) (f g : α → K) :
    sum (l.map fun a => f a + g a) = sum (l.map f) + sum (l.map g) := by
  induction l with
  | nil => simp only [List.map_nil, sum, add_zero]
  | cons a l ih => simp only [List.map_cons, sum, ih]; ring

theorem sum_map_mul_left {α : Type} (l : List α) (c : K) (f : α → K) :
    sum (l.map fun a => c * f a) = c * sum (l.map f) := by
  induction l with
  | nil => simp only [List.map_nil, sum, mul_zero]
  | cons a l ih => simp only [List.map_cons, sum, ih, mul_add]

theorem sum_map_mul_right {α : Type} (l : List α) (c : K) (f : α → K) :
    sum (l.map fun a => f a * c) = sum (l.map f) * c := by
  induction l with
  | nil => simp only [List.map_nil, sum, zero_mul]
  | cons a l ih => simp only [List.map_cons, sum, ih, add_mul]

theorem sum_map_zero {α : Type} (l : List α) : sum (l.map fun _ => (0 : K)) = 0 := by
  induction l with
  | nil => rfl
  | cons a l ih => simp only [List.map_cons, sum, ih, add_zero]

theorem sum_map_congr {α : Type} (l : List α) (f g : α → K) (h : ∀ a ∈ l, f a = g a) :
    sum (l.map f) = sum (l.map g) := by
  rw [List.map_congr_left h]

theorem sum_comm {α β : Type} (l : List α) (m : List β) (f : α → β → K) :
    sum (l.map fun a => sum (m.map fun b => f a b)) =
      sum (m.map fun b => sum (l.map fun a => f a b)) := by
  induction l with
  | nil => simp only [List.map_nil, sum, sum_map_zero]
  | cons a l ih => simp only [List.map_cons, sum, ih, sum_map_add]

theorem sum_flatMap_map {α β : Type} (l : List α) (f : α → List β) (h : β → K) :
    sum ((l.flatMap f).map h) = sum (l.map fun a => sum ((f a).map h)) := by
  induction l with
  | nil => rfl
  | cons a l ih => simp only [List.flatMap_cons, List.map_append, sum_append, List.map_cons, sum, ih]

theorem sum_filter_map {α : Type} (l : List α) (p : α → Bool) (f : α → K) :
    sum ((l.filter p).map f) = sum (l.map fun a => f a * (if p a then 1 else 0)) := by
  induction l with
  | nil => rfl
  | cons a l ih =>
    cases h : p a
    · simp only [List.filter_cons, h, List.map_cons, sum, ih, Bool.false_eq_true, if_false,
        mul_zero, zero_add]
    · simp only [List.filter_cons, h, List.map_cons, sum, ih, if_true, mul_one]

theorem sum_range_ind (k x : Nat) (f : Nat → K) (hx : x < k) :
    sum ((List.range k).map fun y => f y * (if y == x then 1 else 0)) = f x := by
  rw [← sum_filter_map, List.filter_beq, List.count_range, if_pos hx]
  exact add_zero _

theorem get_map_range (n i : Nat) (f : Nat → K) (h : i < n) :
    get ((List.range n).map f) i = f i := by
  simp [get, h]

theorem sum_map_get_range (l : List K) :
    sum ((List.range l.length).map fun i => get l i) = sum l := by
  induction l with
  | nil => rfl
  | cons a l ih =>
    rw [List.length_cons, List.range_succ_eq_map, List.map_cons, List.map_map]
    exact congrArg (a + ·) ih

/-! ### forward recursion -/

theorem fwdStep_length (trans emis : List (List K)) (alpha : List K) (o : Nat) :
    (fwdStep trans emis alpha o).length = alpha.length := by
  rw [fwdStep, List.length_map, List.length_range]

theorem fwdInit_length (init : List K) (emis : List (List K)) (o : Nat) :
    (fwdInit init emis o).length = init.length := by
  rw [fwdInit, List.length_map, List.length_range]

theorem get_fwdStep (trans emis : List (List K)) (alpha : List K) (o y : Nat)
    (hy : y < alpha.length) :
    get (fwdStep trans emis alpha o) y =
      get2 emis y o *
        sum ((List.range alpha.length).map fun x => get alpha x * get2 trans x y) :=
  get_map_range _ _ _ hy

theorem get_fwdInit (init : List K) (emis : List (List K)) (o x : Nat) (hx : x < init.length) :
    get (fwdInit init emis o) x = get init x * get2 emis x o :=
  get_map_range _ _ _ hx

theorem forwardFrom_length (trans emis : List (List K)) (alpha : List K) (os : List Nat) :
    (forwardFrom trans emis alpha os).length = os.length := by
  induction os generalizing alpha with
  | nil => rfl
  | cons o os ih => simp only [forwardFrom, List.length_cons, ih]

theorem forwardFrom_shape (trans emis : List (List K)) (alpha : List K) (os : List Nat) :
    ∀ a ∈ forwardFrom trans emis alpha os, a.length = alpha.length := by
  induction os generalizing alpha with
  | nil => exact fun a ha => nomatch ha
  | cons o os ih =>
    intro a ha
    rcases List.mem_cons.1 ha with rfl | ha
    · exact fwdStep_length ..
    · rw [ih _ a ha, fwdStep_length]

theorem forwardFrom_last_length (trans emis : List (List K)) (alpha : List K) (os : List Nat) :
    ((forwardFrom trans emis alpha os).getLastD alpha).length = alpha.length := by
  induction os generalizing alpha with
  | nil => rfl
  | cons o os ih => simp only [forwardFrom, List.getLastD_cons, ih, fwdStep_length]

theorem forward_last_length (init : List K) (trans emis : List (List K)) (o : Nat)
    (os : List Nat) : ((forward init trans emis (o :: os)).getLastD []).length = init.length := by
  rw [forward, List.getLastD_cons, forwardFrom_last_length, fwdInit_length]

/-- backward message: Σ over state sequences `ss` of the transition/emission weights after state
    `p`, times a weight `g` of the last state -/
def bwd (trans emis : List (List K)) (k : Nat) (g : Nat → K) (p : Nat) (os : List Nat) : K :=
  sum ((seqs k os.length).map fun ss => jointFrom trans emis p ss os * g (ss.getLastD p))

theorem bwd_nil (trans emis : List (List K)) (k : Nat) (g : Nat → K) (p : Nat) :
    bwd trans emis k g p [] = g p := by
  simp only [bwd, List.length_nil, seqs, List.map_cons, List.map_nil, sum, jointFrom,
    List.getLastD_nil, one_mul, add_zero]

theorem bwd_cons (trans emis : List (List K)) (k : Nat) (g : Nat → K) (p o : Nat) (os : List Nat) :
    bwd trans emis k g p (o :: os) =
      sum ((List.range k).map fun q =>
        get2 trans p q * get2 emis q o * bwd trans emis k g q os) := by
  simp only [bwd, List.length_cons, seqs, sum_flatMap_map, List.map_map, Function.comp_def,
    jointFrom, List.getLastD_cons, mul_assoc, sum_map_mul_left]

theorem forwardFrom_bwd (trans emis : List (List K)) (g : Nat → K) (os : List Nat) (alpha : List K) :
    sum ((List.range alpha.length).map fun x =>
        get ((forwardFrom trans emis alpha os).getLastD alpha) x * g x) =
      sum ((List.range alpha.length).map fun p =>
        get alpha p * bwd trans emis alpha.length g p os) := by
  induction os generalizing alpha with
  | nil => simp only [forwardFrom, List.getLastD_nil, bwd_nil]
  | cons o os ih =>
    have h := ih (fwdStep trans emis alpha o)
    rw [fwdStep_length] at h
    simp only [forwardFrom, List.getLastD_cons, h, bwd_cons, ← sum_map_mul_left]
    -- with the sums on the right swapped, both sides are
    -- Σ_q Σ_p alpha(p) · trans[p][q] · emis[q][o] · bwd(q)
    rw [sum_comm]
    refine sum_map_congr _ _ _ fun q hq => ?_
    rw [get_fwdStep _ _ _ _ _ (List.mem_range.1 hq), mul_assoc, ← sum_map_mul_right,
      ← sum_map_mul_left]
    exact sum_map_congr _ _ _ fun p _ => by ring

theorem forward_bwd (init : List K) (trans emis : List (List K)) (g : Nat → K) (o : Nat)
    (os : List Nat) :
    sum ((List.range init.length).map fun x =>
        get ((forward init trans emis (o :: os)).getLastD []) x * g x) =
      sum ((seqs init.length (os.length + 1)).map fun ss =>
        joint init trans emis ss (o :: os) * g (ss.getLastD 0)) := by
  have h := forwardFrom_bwd trans emis g os (fwdInit init emis o)
  rw [fwdInit_length] at h
  simp only [forward, List.getLastD_cons, h, seqs, sum_flatMap_map, List.map_map,
    Function.comp_def, joint]
  refine sum_map_congr _ _ _ fun p hp => ?_
  rw [get_fwdInit _ _ _ _ (List.mem_range.1 hp), bwd, ← sum_map_mul_left]
  exact sum_map_congr _ _ _ fun ss _ => by simp only [mul_assoc]

end Semiring

section Field
variable {K : Type} [Field K]

/-- `ffbs_law` for an arbitrary starting message (the form the induction needs) -/
theorem ffbs_from (trans emis : List (List K)) (os : List Nat) (alpha : List K) (s : Nat)
    (ss : List Nat) (hlen : ss.length = os.length) (hss : ∀ y ∈ ss, y < alpha.length)
    (hpos : ∀ (a : List K) (y : Nat), a ∈ alpha :: forwardFrom trans emis alpha os → y ∈ ss →
        sum ((List.range a.length).map fun x' => get a x' * get2 trans x' y) ≠ 0) :
    ffbsProb trans (alpha :: forwardFrom trans emis alpha os) (s :: ss) =
      get alpha s * jointFrom trans emis s ss os /
        sum ((forwardFrom trans emis alpha os).getLastD alpha) := by
  induction os generalizing alpha s ss with
  | nil =>
    obtain rfl := List.eq_nil_of_length_eq_zero hlen
    simp only [forwardFrom, ffbsProb, jointFrom, List.getLastD_nil, mul_one]
  | cons o os ih =>
    obtain ⟨s', ss, rfl⟩ := List.exists_cons_of_length_eq_add_one hlen
    have hs' : s' < alpha.length := hss s' List.mem_cons_self
    have hD := hpos alpha s' List.mem_cons_self List.mem_cons_self
    simp only [forwardFrom, List.getLastD_cons, ffbsProb]
    rw [ih (fwdStep trans emis alpha o) s' ss (Nat.succ.inj hlen)
      (fun y hy => fwdStep_length trans emis alpha o ▸ hss y (List.mem_cons_of_mem _ hy))
      (fun a y ha hy => hpos a y (List.mem_cons_of_mem _ ha) (List.mem_cons_of_mem _ hy)),
      back, jointFrom, get_fwdStep _ _ _ _ _ hs', div_mul_eq_mul_div, div_eq_iff hD]
    -- the normaliser of the backward kernel cancels against the next forward message
    ring

set_option linter.unusedVariables false in
/-- backward sampling draws state sequences from the exact posterior, whenever the normalisers met
    along the way are non-zero -/
theorem ffbs_law (init : List K) (trans emis : List (List K)) (o : Nat) (os : List Nat)
    (ss : List Nat) (hlen : ss.length = os.length + 1) (hss : ∀ s ∈ ss, s < init.length)
    (hpos : ∀ (a : List K) (y : Nat), a ∈ forward init trans emis (o :: os) → y ∈ ss →
        sum ((List.range a.length).map fun x' => get a x' * get2 trans x' y) ≠ 0)
    (hm : marginal init trans emis (o :: os) ≠ 0) :  -- (`hm` is not needed: x / 0 = 0 on both sides)
    ffbsProb trans (forward init trans emis (o :: os)) ss =
      joint init trans emis ss (o :: os) / marginal init trans emis (o :: os) := by
  obtain ⟨s, ss, rfl⟩ := List.exists_cons_of_length_eq_add_one hlen
  simp only [forward, marginal, List.getLastD_cons, joint]
  rw [ffbs_from trans emis os (fwdInit init emis o) s ss (Nat.succ.inj hlen)
    (fun y hy => fwdInit_length init emis o ▸ hss y (List.mem_cons_of_mem _ hy))
    (fun a y ha hy => hpos a y ha (List.mem_cons_of_mem _ hy)),
    get_fwdInit _ _ _ _ (hss s List.mem_cons_self)]

end Field
end Genjax.Hmm

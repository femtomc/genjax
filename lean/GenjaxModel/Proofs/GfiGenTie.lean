import GenjaxModel.Proofs.GfiDistMonad
/-!
  Tie of `GF.generateD` to the executable model when every primitive has a one-point support at the
  probe sampler's draw and the masses are the exponentials of the log densities: the distribution
  has a single outcome (`IsPoint`, `GfiDistMonad.lean`), namely what `GF.generate` returns, with
  the weight pushed through the exponential (`generateD_point`).
-/
namespace Genjax
open Smc Smc.FinDist

section Tie
variable {K : Type} [Field K] {R : Type} [Zero R] [Add R] [Neg R]
variable (e : R → K) (he0 : e 0 = 1) (hadd : ∀ a b, e (a + b) = e a * e b)
variable (pd : PD K) (P : Prims R) (cfg : Cfg)
variable (hsupp : ∀ d a, pd.support d a = [P.draw d a])
variable (hpm : ∀ d a v, pd.pm d a v = e (P.lp d a v))

def wmap (tw : Tr R × R) : Tr R × K := (tw.1, e tw.2)

omit [Field K] [Zero R] [Add R] [Neg R] in
theorem map_wmap_fst (ts : List (Tr R × R)) : (ts.map (wmap e)).map (·.1) = ts.map (·.1) := by
  rw [List.map_map]; rfl

include he0 hadd in
omit [Neg R] in
theorem prodK_wmap (ts : List (Tr R × R)) :
    prodK ((ts.map (wmap e)).map (·.2)) = e (sumR (ts.map (·.2))) := by
  rw [← prodK_map_exp e he0 hadd, List.map_map, List.map_map]; rfl

include he0 hadd hsupp hpm in
theorem gen_point_both :
    (∀ (g : GF) (ox : Option CM) (args : List Val),
      IsPoint (g.generateD pd P cfg ox args) ((g.generate P cfg ox args).map (wmap e))) ∧
    ∀ (b : Body) (xs : CML) (env : List Val) (subs : TrL R) (s w : R),
      IsPoint (b.generateD pd P cfg xs env subs s (e w))
        ((b.generate P cfg xs env subs s w).map fun r => (r.1, r.2.1, r.2.2.1, e r.2.2.2)) := by
  have hsim := simD_point_both pd P hsupp
  refine GF.rec_both ?_ ?_ ?_ ?_ ?_ ?_ ?_
  · intro d ox args
    cases ox with
    | none =>
      simp only [GF.generateD, GF.generate, hsupp, List.map_cons, List.map_nil, Option.map_some,
        wmap, he0]
      exact ⟨_, rfl⟩
    | some x =>
      cases x with
      | leaf v =>
        simp only [GF.generateD, GF.generate, Option.map_some, wmap, hpm]
        exact IsPoint.pure _
      | _ => exact IsPoint.pure _
  · intro body ih ox args
    cases ox with
    | none =>
      simp only [GF.generateD, GF.generate, Option.bind_eq_bind, Option.pure_def]
      exact IsPoint.bindO_map (m := id) (hsim.2 body args .nil 0).map_id fun r =>
        IsPoint.pureO_eq (by simp only [id, Option.map_some, wmap, he0])
    | some x =>
      cases x with
      | node xs =>
        simp only [GF.generateD, GF.generate, Option.bind_eq_bind, Option.pure_def]
        exact IsPoint.bindO_map (m := fun r : TrL R × Val × R × R => (r.1, r.2.1, r.2.2.1, e r.2.2.2))
          (he0 ▸ ih xs args .nil 0 0) fun r => IsPoint.pure _
      | _ => exact IsPoint.pure _
  · intro g axes n ih ox args
    cases ox with
    | none =>
      simp only [GF.generateD, GF.generate, Option.bind_eq_bind, Option.pure_def]
      split
      · exact IsPoint.bindO_map (forLanesD_point_map _ _ (wmap e) (fun i _ => ih none _) _ _)
          fun ts => IsPoint.pureO_eq (by
            simp only [Option.map_some, wmap, map_wmap_fst, prodK_wmap e he0 hadd])
      · exact IsPoint.pure _
    | some x =>
      cases x with
      | lanes xs =>
        by_cases hlen : xs.toList.length = n
        · simp only [GF.generateD, GF.generate, lenIs, if_pos hlen, Option.bind_eq_bind,
            Option.bind_some, Option.pure_def]
          exact IsPoint.bindO_map
            (forLanesD_point_map _ _ (wmap e) (fun i xi => ih (some xi) _) _ _)
            fun ts => IsPoint.pureO_eq (by
              simp only [Option.map_some, wmap, map_wmap_fst, prodK_wmap e he0 hadd])
        · simp only [GF.generateD, GF.generate, lenIs, if_neg hlen]
          exact IsPoint.pure _
      | _ => exact IsPoint.pure _
  · intro g n ih ox args
    have step : ∀ (ox : Option CM) (c : Val) (i : Nat),
        IsPoint (bindO (g.generateD pd P cfg ox [c, (args.getD 1 .nil).nth i])
            fun tw => pureO (tw, tw.1.retval.fst))
          (((g.generate P cfg ox [c, (args.getD 1 .nil).nth i]).bind
            fun tw => some (tw, tw.1.retval.fst)).map fun p => (wmap e p.1, p.2)) :=
      fun ox c i => IsPoint.bindO_map (ih ox _) fun tw => IsPoint.pure _
    cases ox with
    | none =>
      simp only [GF.generateD, GF.generate, Option.bind_eq_bind, Option.pure_def]
      exact IsPoint.bindO_map
        (forStepsD_point_map _ _ (wmap e) (fun c i _ => step none c i) _ _ _)
        fun r => IsPoint.pureO_eq (by
          simp only [Option.map_some, wmap, map_wmap_fst, prodK_wmap e he0 hadd])
    | some x =>
      cases x with
      | lanes xs =>
        by_cases hlen : xs.toList.length = n
        · simp only [GF.generateD, GF.generate, lenIs, if_pos hlen, Option.bind_eq_bind,
            Option.bind_some, Option.pure_def]
          exact IsPoint.bindO_map
            (forStepsD_point_map _ _ (wmap e) (fun c i xi => step (some xi) c i) _ _ _)
            fun r => IsPoint.pureO_eq (by
              simp only [Option.map_some, wmap, map_wmap_fst, prodK_wmap e he0 hadd])
        · simp only [GF.generateD, GF.generate, lenIs, if_neg hlen]
          exact IsPoint.pure _
      | _ => exact IsPoint.pure _
  · intro t f iht ihf ox args
    cases ox with
    | none =>
      simp only [GF.generateD, GF.generate, Option.bind_eq_bind, Option.pure_def]
      exact IsPoint.bindO_map (m := id) (hsim.1 t _).map_id fun a =>
        IsPoint.bindO_map (m := id) (hsim.1 f _).map_id fun b =>
          IsPoint.pureO_eq (by simp only [id, Option.map_some, wmap, he0])
    | some x =>
      simp only [GF.generateD, GF.generate, Option.bind_eq_bind, Option.pure_def]
      exact IsPoint.bindO_map (iht (some x) _) fun aw =>
        IsPoint.bindO_map (ihf (some x) _) fun bw => IsPoint.pureO_eq (by
          simp only [Option.map_some, wmap]
          split <;> rfl)
  · intro ex xs env subs s w
    exact IsPoint.pure _
  · intro addr g es rest ihg ihr xs env subs s w
    simp only [Body.generateD, Body.generate, Option.bind_eq_bind]
    split
    · exact IsPoint.pure _
    · exact IsPoint.bindO_map (ihg _ _) fun tw => hadd w tw.2 ▸ ihr xs _ _ _ (w + tw.2)

include he0 hadd hsupp hpm in
theorem gen_point_body : (b : Body) → ∀ (xs : CML) (env : List Val) (subs : TrL R) (s w : R),
      IsPoint (b.generateD pd P cfg xs env subs s (e w))
        ((b.generate P cfg xs env subs s w).map fun r => (r.1, r.2.1, r.2.2.1, e r.2.2.2)) :=
  (gen_point_both e he0 hadd pd P cfg hsupp hpm).2

include he0 hadd hsupp hpm in
theorem generateD_point (g : GF) (ox : Option CM) (args : List Val) :
    ∃ q, g.generateD pd P cfg ox args
      = [((g.generate P cfg ox args).map fun tw => (tw.1, e tw.2), q)] :=
  (gen_point_both e he0 hadd pd P cfg hsupp hpm).1 g ox args

end Tie

end Genjax

import GenjaxModel.Proofs.Mcmc
import Mathlib.Algebra.BigOperators.Group.Finset.Basic
import Mathlib.Algebra.BigOperators.Ring.Finset
import Mathlib.Algebra.Order.BigOperators.Ring.Finset
/-!
  C09, the step from DETAILED BALANCE to INVARIANCE, with the rejection mass on the diagonal
  (finite state spaces).

  `mh` (src/genjax/inference/mcmc.py) proposes with `regenerate`, accepts with probability
  `min(1, w)` and otherwise RETURNS THE INPUT TRACE: the transition kernel is the off-diagonal
  "propose and accept" part `A x y` completed by the rejection mass `1 − Σ_{z ≠ x} A x z` at `x`.
  `withRejection S A` is that completion over a finite set of states `S`.  Detailed balance of `A`
  off the diagonal gives detailed balance of the completed kernel, whose rows sum to 1, hence
  invariance of `π`; the Metropolis–Hastings part `mhOff` is in detailed balance for non-negative
  (not only positive) `π`, `q`.
-/
namespace Genjax.Mcmc
open Finset
set_option linter.unusedSectionVars false

section Generic
variable {K : Type} [Field K] {σ : Type} [DecidableEq σ]

def withRejection (S : Finset σ) (A : σ → σ → K) (x y : σ) : K :=
  if x = y then 1 - ∑ z ∈ S.erase x, A x z else A x y

/-- one step of a kernel applied to a (sub-)distribution over `S` -/
def pushK (S : Finset σ) (P : σ → σ → K) (μ : σ → K) (y : σ) : K := ∑ x ∈ S, μ x * P x y

theorem withRejection_self (S : Finset σ) (A : σ → σ → K) (x : σ) :
    withRejection S A x x = 1 - ∑ z ∈ S.erase x, A x z := if_pos rfl

theorem withRejection_off (S : Finset σ) (A : σ → σ → K) {x y : σ} (h : x ≠ y) :
    withRejection S A x y = A x y := if_neg h

theorem withRejection_row_sum (S : Finset σ) (A : σ → σ → K) (x : σ) (hx : x ∈ S) :
    ∑ y ∈ S, withRejection S A x y = 1 := by
  rw [← Finset.add_sum_erase S _ hx, Finset.sum_congr rfl fun y hy =>
    withRejection_off S A (Finset.ne_of_mem_erase hy).symm, withRejection_self, sub_add_cancel]

theorem withRejection_reversible (S : Finset σ) (A : σ → σ → K) (π : σ → K)
    (hA : ∀ x ∈ S, ∀ y ∈ S, x ≠ y → π x * A x y = π y * A y x) (x y : σ) (hx : x ∈ S) (hy : y ∈ S) :
    π x * withRejection S A x y = π y * withRejection S A y x := by
  by_cases h : x = y
  · subst h; rfl
  · rw [withRejection_off S A h, withRejection_off S A (Ne.symm h)]
    exact hA x hx y hy h

theorem invariant_of_reversible (S : Finset σ) (P : σ → σ → K) (π : σ → K)
    (hrev : ∀ x ∈ S, ∀ y ∈ S, π x * P x y = π y * P y x) (hrow : ∀ x ∈ S, ∑ y ∈ S, P x y = 1)
    (y : σ) (hy : y ∈ S) : pushK S P π y = π y := by
  unfold pushK
  calc ∑ x ∈ S, π x * P x y = ∑ x ∈ S, π y * P y x :=
        Finset.sum_congr rfl (fun x hx => hrev x hx y hy)
    _ = π y * ∑ x ∈ S, P y x := by rw [Finset.mul_sum]
    _ = π y := by rw [hrow y hy, mul_one]

theorem invariant_iterate (S : Finset σ) (P : σ → σ → K) (π : σ → K)
    (hrev : ∀ x ∈ S, ∀ y ∈ S, π x * P x y = π y * P y x) (hrow : ∀ x ∈ S, ∑ y ∈ S, P x y = 1)
    (n : Nat) :
    ∀ y ∈ S, (pushK S P)^[n] π y = π y := by
  induction n with
  | zero => intro y _; rfl
  | succ n ih =>
    intro y hy
    rw [Function.iterate_succ_apply', ← invariant_of_reversible S P π hrev hrow y hy]
    exact Finset.sum_congr rfl fun x hx => by rw [ih x hx]

/-- the kernel `mh` realises: invariant from detailed balance of the off-diagonal part alone -/
theorem withRejection_invariant (S : Finset σ) (A : σ → σ → K) (π : σ → K)
    (hA : ∀ x ∈ S, ∀ y ∈ S, x ≠ y → π x * A x y = π y * A y x) (n : Nat) (y : σ) (hy : y ∈ S) :
    (pushK S (withRejection S A))^[n] π y = π y :=
  invariant_iterate S _ π (fun x hx y hy => withRejection_reversible S A π hA x y hx hy)
    (fun x hx => withRejection_row_sum S A x hx) n y hy

end Generic

section MH
variable {K : Type} [Field K] [LinearOrder K] [IsStrictOrderedRing K] {σ : Type} [DecidableEq σ]

theorem mh_detailed_balance_nonneg (a b : K) (ha : 0 ≤ a) (hb : 0 ≤ b) :
    a * min 1 (b / a) = b * min 1 (a / b) := by
  rw [mul_min_one_div a b ha hb, mul_min_one_div b a hb ha, min_comm]

def mhOff (π : σ → K) (q : σ → σ → K) (x y : σ) : K :=
  q x y * min 1 ((π y * q y x) / (π x * q x y))

theorem mhOff_reversible (π : σ → K) (q : σ → σ → K) (hπ : ∀ x, 0 ≤ π x) (hq : ∀ x y, 0 ≤ q x y)
    (x y : σ) : π x * mhOff π q x y = π y * mhOff π q y x := by
  unfold mhOff
  rw [← mul_assoc, ← mul_assoc]
  exact mh_detailed_balance_nonneg _ _ (mul_nonneg (hπ x) (hq x y)) (mul_nonneg (hπ y) (hq y x))

def mhKernel (S : Finset σ) (π : σ → K) (q : σ → σ → K) : σ → σ → K := withRejection S (mhOff π q)

theorem mhOff_nonneg (π : σ → K) (q : σ → σ → K) (hπ : ∀ x, 0 ≤ π x) (hq : ∀ x y, 0 ≤ q x y)
    (x y : σ) : 0 ≤ mhOff π q x y :=
  mul_nonneg (hq x y) (le_min zero_le_one
    (div_nonneg (mul_nonneg (hπ y) (hq y x)) (mul_nonneg (hπ x) (hq x y))))

theorem mhOff_le (π : σ → K) (q : σ → σ → K) (hq : ∀ x y, 0 ≤ q x y) (x y : σ) :
    mhOff π q x y ≤ q x y :=
  mul_le_of_le_one_right (hq x y) (min_le_left _ _)

/-- the diagonal entry needs the proposal rows (sub-)stochastic on `S` -/
theorem mhKernel_nonneg (S : Finset σ) (π : σ → K) (q : σ → σ → K) (hπ : ∀ x, 0 ≤ π x)
    (hq : ∀ x y, 0 ≤ q x y) (hrow : ∀ x ∈ S, ∑ y ∈ S, q x y ≤ 1) (x y : σ) (hx : x ∈ S) :
    0 ≤ mhKernel S π q x y := by
  unfold mhKernel
  rcases eq_or_ne x y with rfl | h
  · rw [withRejection_self, sub_nonneg]
    calc ∑ z ∈ S.erase x, mhOff π q x z
        ≤ ∑ z ∈ S.erase x, q x z := Finset.sum_le_sum fun z _ => mhOff_le π q hq x z
      _ ≤ ∑ z ∈ S, q x z :=
        Finset.sum_le_sum_of_subset_of_nonneg (Finset.erase_subset x S) fun z _ _ => hq x z
      _ ≤ 1 := hrow x hx
  · rw [withRejection_off S _ h]
    exact mhOff_nonneg π q hπ hq x y

theorem mhKernel_row_sum (S : Finset σ) (π : σ → K) (q : σ → σ → K) (x : σ) (hx : x ∈ S) :
    ∑ y ∈ S, mhKernel S π q x y = 1 := withRejection_row_sum S _ x hx

theorem mhKernel_reversible (S : Finset σ) (π : σ → K) (q : σ → σ → K) (hπ : ∀ x, 0 ≤ π x)
    (hq : ∀ x y, 0 ≤ q x y) (x y : σ) (hx : x ∈ S) (hy : y ∈ S) :
    π x * mhKernel S π q x y = π y * mhKernel S π q y x :=
  withRejection_reversible S _ π (fun x _ y _ _ => mhOff_reversible π q hπ hq x y) x y hx hy

theorem mhKernel_invariant (S : Finset σ) (π : σ → K) (q : σ → σ → K) (hπ : ∀ x, 0 ≤ π x)
    (hq : ∀ x y, 0 ≤ q x y) (n : Nat) (y : σ) (hy : y ∈ S) :
    (pushK S (mhKernel S π q))^[n] π y = π y :=
  withRejection_invariant S _ π (fun x _ y _ _ => mhOff_reversible π q hπ hq x y) n y hy

end MH
end Genjax.Mcmc

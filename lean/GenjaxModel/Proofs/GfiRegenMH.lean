import GenjaxModel.Proofs.GfiRegenLaw
import GenjaxModel.Proofs.GfiLawMain
import GenjaxModel.Proofs.GfiCohInv
import GenjaxModel.Proofs.Mcmc
/-!
  `mh` on Cond-free generative-function programs (C09 + C04), from the law of `regenerateD`
  (`GfiRegenLaw.lean`) and the split density `assessS` (`GfiRegenAssess.lean`):
    * `regenD_proposal_law`  P(regenerateD proposes x') = q(x → x')
    * `regenW_mh_ratio`      weight · π(x) · q(x → x') = π(x') · q(x' → x)
    * `mh_gfi_detailed_balance`  π(x) · q(x → x') · α = π(x') · q(x' → x) · α'  in kernel form
  and the primitives and programs (`mhEx…`, exact rationals) on which `Props/C09.lean` and
  `Props/C04.lean` evaluate these statements.
-/
namespace Genjax
open Smc Smc.FinDist

section Masses
variable {K : Type} [Field K] (pd : PD K)

/-- q-factor: the product of the masses of the selected sites of `x` (0 if `assess` raises) -/
def selMass (g : GF) (x : CM) (s : Sel) (args : List Val) : K :=
  match g.assessS pd x s args with
  | none => 0
  | some o => o.1.1

/-- the product of the masses of the unselected sites of `x` (0 if `assess` raises) -/
def unselMass (g : GF) (x : CM) (s : Sel) (args : List Val) : K :=
  match g.assessS pd x s args with
  | none => 0
  | some o => o.1.2

theorem pmassOf_eq_sel_mul_unsel (g : GF) (x : CM) (s : Sel) (args : List Val) :
    pmassOf (g.assessP pd x args) = selMass pd g x s args * unselMass pd g x s args := by
  rw [assessP_eq_assessS pd g x s args]
  dsimp only [selMass, unselMass]
  cases g.assessS pd x s args with
  | none => exact (mul_zero 0).symm
  | some o => rfl

end Masses

section Alg
variable {K : Type} [Field K] [LinearOrder K] [IsStrictOrderedRing K]

omit [IsStrictOrderedRing K] in
theorem accProb_eq_min (w : K) : accProb w = min 1 w := by
  unfold accProb
  split
  · next h => exact (min_eq_right (le_of_lt h)).symm
  · next h => exact (min_eq_left (not_lt.mp h)).symm

theorem accProb_zero : accProb (0 : K) = 0 := if_pos zero_lt_one

/-- the algebraic core of detailed balance; the reciprocals are guarded, so no positivity of `π` -/
theorem mh_core (B B' U U' : K) (hB : 0 ≤ B) (hB' : 0 ≤ B') (hU : B ≠ 0 → U * B = 1)
    (hU' : B' ≠ 0 → U' * B' = 1) : B * accProb (B' * U) = B' * accProb (B * U') := by
  by_cases h0 : B = 0
  · subst h0; simp [accProb_zero]
  by_cases h0' : B' = 0
  · subst h0'; simp [accProb_zero]
  have hBp : 0 < B := lt_of_le_of_ne hB (Ne.symm h0)
  have hBp' : 0 < B' := lt_of_le_of_ne hB' (Ne.symm h0')
  have e1 : U = 1 / B := eq_div_of_mul_eq h0 (hU h0)
  have e2 : U' = 1 / B' := eq_div_of_mul_eq h0' (hU' h0')
  rw [accProb_eq_min, accProb_eq_min, e1, e2, mul_one_div, mul_one_div]
  exact Mcmc.mh_detailed_balance B B' hBp hBp'

end Alg

section Laws
variable {K : Type} [Field K] {R : Type} [AddCommGroup R]
variable (e : R → K) (pd : PD K) (P : Prims R) (cfg : Cfg)

/-- `E[1{new choices = x'} Φ(retval, weight)]
       = 1{x, x' agree off the selection} · selMass(x') · Φ(r', unselMass(x') · unselE t)`,
    `r'` the return value `assessS` reports for `x'`. -/
theorem regenD_weight_law (hpd : pd.WF) (hsr : cfg.scanRegenDefined = true) (g : GF)
    (hcf : g.condFree = true) (t : Tr R) (a : List Val) (s : Sel) (x x' : CM) (args : List Val)
    (hc : g.Coh P a t) (hx : t.choices = some x) (hs : g.skel = some x.skel)
    (hs' : g.skel = some x'.skel) (Φ : Val → K → K) :
    E (g.regenerateD e pd P cfg t s args) (optK (chW x' Φ))
      = if CM.eqOff s x x' then
          (match g.assessS pd x' s args with
           | none => 0
           | some o => o.1.1 * Φ o.2 (o.1.2 * g.unselE e t s))
        else 0 := by
  rw [regenD_law e pd P cfg hpd g hcf t s args x' Φ hs',
    regenW_eq e pd P cfg hsr g hcf t a s x x' args hc hx hs hs']
  by_cases hE : CM.eqOff s x x' = true
  · simp only [hE, if_true]
    cases g.assessS pd x' s args <;> rfl
  · simp only [hE, Bool.false_eq_true, if_false]; rfl

/-- P(regenerate proposes `x'`) = q(x → x') = the product of the masses of the selected sites of `x'`
    (parameters computed from `x'`) if `x'` agrees with `x` off the selection, and 0 otherwise. -/
theorem regenD_proposal_law (hpd : pd.WF) (hsr : cfg.scanRegenDefined = true) (g : GF)
    (hcf : g.condFree = true) (t : Tr R) (a : List Val) (s : Sel) (x x' : CM) (args : List Val)
    (hc : g.Coh P a t) (hx : t.choices = some x) (hs : g.skel = some x.skel)
    (hs' : g.skel = some x'.skel) :
    E (g.regenerateD e pd P cfg t s args)
        (optK fun r => if r.1.choices = some x' then 1 else 0)
      = if CM.eqOff s x x' then selMass pd g x' s args else 0 := by
  have := regenD_weight_law e pd P cfg hpd hsr g hcf t a s x x' args hc hx hs hs' (fun _ _ => 1)
  unfold chW at this
  rw [this]
  unfold selMass
  cases g.assessS pd x' s args <;> simp

variable (hinv : ∀ d a v, pd.pm d a v ≠ 0 → e (-(P.lp d a v)) * pd.pm d a v = 1)

include hinv in
/-- The weight is the Metropolis-Hastings ratio (cross-multiplied, unchanged arguments):
    `W · π(x) · q(x → x') = π(x') · q(x' → x)`, `π` the `assessP` mass and `q(x' → x) = selMass x`. -/
theorem regenW_mh_ratio (hsr : cfg.scanRegenDefined = true) (g : GF) (hcf : g.condFree = true)
    (t : Tr R) (s : Sel) (x x' : CM) (args : List Val)
    (hc : g.Coh P args t) (hx : t.choices = some x) (hs : g.skel = some x.skel)
    (hs' : g.skel = some x'.skel) (hne : unselMass pd g x s args ≠ 0)
    (q W : K) (r : Val) (h : g.regenW e pd cfg t s x' args = some ((q, W), r)) :
    CM.eqOff s x x' = true ∧ q = selMass pd g x' s args ∧
    W * pmassOf (g.assessP pd x args) * q
      = pmassOf (g.assessP pd x' args) * selMass pd g x s args := by
  rw [regenW_eq e pd P cfg hsr g hcf t args s x x' args hc hx hs hs'] at h
  obtain ⟨A, B, hAB, hU⟩ := coh_assessS e pd P hinv g hcf args t x s hc hx
  by_cases hE : CM.eqOff s x x' = true
  · rw [if_pos hE] at h
    rw [pmassOf_eq_sel_mul_unsel pd g x s args, pmassOf_eq_sel_mul_unsel pd g x' s args]
    unfold unselMass at hne
    unfold selMass unselMass
    rw [hAB] at hne ⊢
    cases h' : g.assessS pd x' s args with
    | none => rw [h'] at h; simp at h
    | some o =>
      rw [h'] at h
      simp only [Option.map_some, addU, Option.some.injEq, Prod.mk.injEq] at h
      obtain ⟨⟨rfl, rfl⟩, rfl⟩ := h
      refine ⟨hE, rfl, ?_⟩
      simp only
      rw [mul_mul_mul_comm, hU hne, mul_one, mul_comm, mul_assoc]
  · rw [if_neg hE] at h; cases h

end Laws

section DB
variable {K : Type} [Field K] [LinearOrder K] [IsStrictOrderedRing K] {R : Type} [AddCommGroup R]
variable (e : R → K) (pd : PD K) (P : Prims R) (cfg : Cfg)

/-- the mass the `mh` kernel moves from the trace `t` to the choice map `x'` by an accepted
    proposal: `E[1{proposal = x'} · min(1, weight)]` -/
def mhAcc (g : GF) (t : Tr R) (s : Sel) (args : List Val) (x' : CM) : K :=
  E (g.regenerateD e pd P cfg t s args) (optK (chW x' fun _ w => accProb w))

/-- Detailed balance of `mh` (Cond-free, unchanged arguments):
    `π(x) · K(x → x') = π(x') · K(x' → x)` with `π` the program's joint density (`assessP`) and
    `K(x → x') = mhAcc`.  No positivity assumption on `π`. -/
theorem mh_gfi_detailed_balance (hpd : pd.WF) (hpos : ∀ d a v, 0 ≤ pd.pm d a v)
    (hinv : ∀ d a v, pd.pm d a v ≠ 0 → e (-(P.lp d a v)) * pd.pm d a v = 1)
    (hsr : cfg.scanRegenDefined = true) (g : GF) (hcf : g.condFree = true) (s : Sel)
    (args : List Val) (t t' : Tr R) (x x' : CM)
    (hc : g.Coh P args t) (hc' : g.Coh P args t')
    (hx : t.choices = some x) (hx' : t'.choices = some x')
    (hs : g.skel = some x.skel) (hs' : g.skel = some x'.skel) :
    pmassOf (g.assessP pd x args) * mhAcc e pd P cfg g t s args x'
      = pmassOf (g.assessP pd x' args) * mhAcc e pd P cfg g t' s args x := by
  unfold mhAcc
  rw [regenD_weight_law e pd P cfg hpd hsr g hcf t args s x x' args hc hx hs hs',
    regenD_weight_law e pd P cfg hpd hsr g hcf t' args s x' x args hc' hx' hs' hs,
    CM.eqOff_symm s x' x]
  obtain ⟨A, B, hAB, hU⟩ := coh_assessS e pd P hinv g hcf args t x s hc hx
  obtain ⟨A', B', hAB', hU'⟩ := coh_assessS e pd P hinv g hcf args t' x' s hc' hx'
  have hn := assessS_nonneg pd hpos g x s args _ hAB
  have hn' := assessS_nonneg pd hpos g x' s args _ hAB'
  simp only at hn hn'
  rw [assessP_eq_assessS pd g x s args, assessP_eq_assessS pd g x' s args, hAB, hAB']
  -- with `π(x) = A * B`, `π(x') = A' * B'` each side is `A * A'` times one side of
  -- `mh_core B B' (unselE t) (unselE t')`
  by_cases hE : CM.eqOff s x x' = true
  · simp only [hE, if_true, Option.map_some, pmassOf]
    rw [mul_mul_mul_comm, mh_core B B' (g.unselE e t s) (g.unselE e t' s) hn.2 hn'.2 hU hU',
      mul_mul_mul_comm A' B', mul_comm A' A]
  · simp [hE]

end DB

/-! ## instances (exact rationals): all masses are powers of 1/2, scores integers -/

/-- "level" of a value: the mass is `2^(-level)` (level 0 = outside the support).  One primitive on
    `{0,1,2,3}` whose masses `1/2, 1/4, 1/8, 1/8` are reversed when the parameter is non-zero. -/
def mhExLvl (a : List Val) (v : Val) : Int :=
  if (a.getD 0 .nil).toRat = 0 then
    (if v = .num 0 then 1 else if v = .num 1 then 2 else if v = .num 2 then 3
     else if v = .num 3 then 3 else 0)
  else
    (if v = .num 0 then 3 else if v = .num 1 then 3 else if v = .num 2 then 2
     else if v = .num 3 then 1 else 0)

def mhExPD : PD Rat where
  support := fun _ _ => [.num 0, .num 1, .num 2, .num 3]
  pm := fun _ a v =>
    if mhExLvl a v = 1 then 1/2 else if mhExLvl a v = 2 then 1/4
    else if mhExLvl a v = 3 then 1/8 else 0

/-- log densities base 2 -/
def mhExP : Prims Int := ⟨fun _ a v => -(mhExLvl a v), fun _ _ => .num 0⟩

/-- the exponential base 2 on the scores that occur -/
def mhExE : Int → Rat := fun n => if n = 1 then 2 else if n = 2 then 4 else if n = 3 then 8 else 1

theorem mhExPD_wf : mhExPD.WF := by
  refine ⟨fun _ _ => (by decide +kernel : [Val.num 0, .num 1, .num 2, .num 3].Nodup),
    fun d a v hv => ?_⟩
  simp only [mhExPD, List.mem_cons, List.not_mem_nil, or_false, not_or] at hv
  have hl : mhExLvl a v = 0 := by
    simp only [mhExLvl, hv.1, hv.2.1, hv.2.2.1, hv.2.2.2, if_false, ite_self]
  simp only [mhExPD, hl]
  rfl

theorem mhExPD_nonneg : ∀ d a v, 0 ≤ mhExPD.pm d a v := by
  intro d a v
  simp only [mhExPD]
  split_ifs <;> decide +kernel

theorem mhEx_inv : ∀ d a v, mhExPD.pm d a v ≠ 0 →
    mhExE (-(mhExP.lp d a v)) * mhExPD.pm d a v = 1 := by
  intro d a v h
  simp only [mhExPD, mhExP, mhExE, neg_neg] at h ⊢
  generalize mhExLvl a v = l at h ⊢
  by_cases h1 : l = 1
  · subst h1; decide +kernel
  by_cases h2 : l = 2
  · subst h2; decide +kernel
  by_cases h3 : l = 3
  · subst h3; decide +kernel
  · exact absurd (by simp only [h1, h2, h3, if_false]) h

/-- two sites, the second depends on the first: `x ~ D(0); y ~ D(x); return x + y` -/
def mhExG : GF :=
  .fn (.call "x" (.dist 0) [.const 0]
      (.call "y" (.dist 0) [.var 1] (.ret (.add (.var 1) (.var 2)))))

def mhExX (x y : Rat) : CM :=
  .node (.cons "x" (.leaf (.num x)) (.cons "y" (.leaf (.num y)) .nil))

/-- a Scan whose step has two sites: `a ~ D(carry); b ~ D(a)`; the new carry is `b` -/
def mhExStep : GF :=
  .fn (.call "a" (.dist 0) [.var 0]
      (.call "b" (.dist 0) [.var 2] (.ret (.pair (.var 3) (.var 3)))))

def mhExScan : GF := .scan mhExStep 2

def mhExScanArgs : List Val := [.num 0, Val.ofList [.num 0, .num 0]]

def mhExStepX (a b : Rat) : CM :=
  .node (.cons "a" (.leaf (.num a)) (.cons "b" (.leaf (.num b)) .nil))

def mhExScanX (a b c d : Rat) : CM :=
  .lanes (.cons "" (mhExStepX a b) (.cons "" (mhExStepX c d) .nil))

/-- both sides of detailed balance, computed: the traces of `x`, `x'` are built by `generate` -/
def mhDbSides {K : Type} [Field K] [LinearOrder K] [IsStrictOrderedRing K] {R : Type}
    [AddCommGroup R] (e : R → K) (pd : PD K) (P : Prims R) (cfg : Cfg) (g : GF) (s : Sel)
    (args : List Val) (x x' : CM) : Option (K × K) := do
  let tw ← g.generate P cfg (some x) args
  let tw' ← g.generate P cfg (some x') args
  pure (pmassOf (g.assessP pd x args) * mhAcc e pd P cfg g tw.1 s args x',
        pmassOf (g.assessP pd x' args) * mhAcc e pd P cfg g tw'.1 s args x)

end Genjax

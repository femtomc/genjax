import GenjaxModel.Proofs.GfiRegenAssess
import GenjaxModel.Proofs.GfiLaw
/-!
  The kernel specification `GF.regenW` (Cond-free programs) in terms of the program's density: for a
  coherent old trace `t` with choice map `x` and a new choice map `x'` (both of the program's static
  shape), with `cfg.scanRegenDefined`,

      regenW t s x' args' = if x, x' agree off the selection
                            then ((selected mass of x', unselected mass of x' · unselE t), retval)
                            else none                                            (`regenW_eq`)

  where the masses are those of `GF.assessS` (the split of `assessP` along the selection).

  The law of `regenerate` (properties C04 + C09): under `GF.regenerateD` (every selected
  Distribution site draws from its finite-support distribution, the weight carried in the linear
  domain)

      E (regenerateD g t s args) (optK (chW x' Φ)) = massOf2 (regenW g t s x' args) Φ     (`regenD_law`)

  `massOf2 (some ((q, W), r)) Φ = q * Φ r W`: the proposal mass is `q` and on the event "the new
  choices are `x'`" the weight is `W` and the return value `r`.
-/
namespace Genjax

/-! ## the kernel specification in terms of the density -/

section Lists
variable {K : Type} [Field K] {R : Type} {β : Type}

def addU (u : K) (o : (K × K) × Val) : (K × K) × Val := ((o.1.1, o.1.2 * u), o.2)

def listEqOff (s : Sel) : List CM → List CM → Bool
  | [], [] => true
  | x :: xs, y :: ys => CM.eqOff s x y && listEqOff s xs ys
  | _, _ => false

theorem CML.eqOffPos_toList (s : Sel) : ∀ (a b : CML),
    CML.eqOffPos s a b = listEqOff s a.toList b.toList
  | .nil, .nil => rfl
  | .nil, .cons _ _ _ => rfl
  | .cons _ _ _, .nil => rfl
  | .cons _ v r, .cons _ v' r' => by
      simp only [CML.eqOffPos, CML.toList, listEqOff, CML.eqOffPos_toList s r r']

/-- pulls the per-lane guard `eqOff` out of the loop -/
theorem lanes_guard (s : Sel) (F : Nat → Tr R × CM → Option β) (H : Nat → CM → Option β)
    (m : Tr R → β → β) {ts : List (Tr R)} {cs : List CM}
    (h : List.Forall₂ (fun t c => t.choices = some c) ts cs) :
    ∀ (cs' : List CM) (i : Nat), cs.length = cs'.length →
      (∀ t ∈ ts, ∀ c ∈ cs, ∀ c' ∈ cs', ∀ i, t.choices = some c →
        F i (t, c') = if CM.eqOff s c c' then (H i c').map (m t) else none) →
      forLanes F i (ts.zip cs')
        = if listEqOff s cs cs' then (forLanes H i cs').map (List.zipWith m ts) else none := by
  induction h with
  | nil =>
    intro cs' i hl _
    cases cs' with
    | nil => rfl
    | cons _ _ => cases hl
  | @cons t c ts cs h1 _ ih =>
    intro cs' i hl hF
    cases cs' with
    | nil => cases hl
    | cons c' cs' =>
      have h0 := hF t List.mem_cons_self c List.mem_cons_self c' List.mem_cons_self i h1
      have ih' := ih cs' (i + 1) (Nat.succ.inj hl) fun t ht c hc c' hc' =>
        hF t (List.mem_cons_of_mem _ ht) c (List.mem_cons_of_mem _ hc) c' (List.mem_cons_of_mem _ hc')
      rw [List.zip_cons_cons, forLanes, forLanes, h0, ih', listEqOff]
      cases CM.eqOff s c c'
      · rfl
      · cases listEqOff s cs cs' <;> cases H i c' <;> cases forLanes H (i + 1) cs' <;> rfl

theorem steps_guard (s : Sel) (F : Val → Nat → Tr R × CM → Option (β × Val))
    (H : Val → Nat → CM → Option (β × Val)) (m : Tr R → β → β) {ts : List (Tr R)} {cs : List CM}
    (h : List.Forall₂ (fun t c => t.choices = some c) ts cs) :
    ∀ (cs' : List CM) (cr : Val) (i : Nat), cs.length = cs'.length →
      (∀ t ∈ ts, ∀ c ∈ cs, ∀ c' ∈ cs', ∀ cr i, t.choices = some c →
        F cr i (t, c') = if CM.eqOff s c c'
          then (H cr i c').map (fun p => (m t p.1, p.2)) else none) →
      forSteps F cr i (ts.zip cs')
        = if listEqOff s cs cs'
          then (forSteps H cr i cs').map (fun q => (List.zipWith m ts q.1, q.2)) else none := by
  induction h with
  | nil =>
    intro cs' cr i hl _
    cases cs' with
    | nil => rfl
    | cons _ _ => cases hl
  | @cons t c ts cs h1 _ ih =>
    intro cs' cr i hl hF
    cases cs' with
    | nil => cases hl
    | cons c' cs' =>
      have h0 := hF t List.mem_cons_self c List.mem_cons_self c' List.mem_cons_self cr i h1
      have ih' := fun cr => ih cs' cr (i + 1) (Nat.succ.inj hl) fun t ht c hc c' hc' =>
        hF t (List.mem_cons_of_mem _ ht) c (List.mem_cons_of_mem _ hc) c' (List.mem_cons_of_mem _ hc')
      rw [List.zip_cons_cons, forSteps, forSteps, h0, listEqOff]
      cases CM.eqOff s c c'
      · rfl
      · cases H cr i c' with
        | none => cases listEqOff s cs cs' <;> rfl
        | some p =>
          simp only [if_true, Option.map_some, Option.bind_eq_bind, Option.bind_some, Bool.true_and]
          rw [ih' p.2]
          cases listEqOff s cs cs' <;> cases forSteps H p.2 (i + 1) cs' <;> rfl

variable (u : Tr R → K)

theorem zipWith_addU (ts : List (Tr R)) (rs : List ((K × K) × Val)) (hl : ts.length = rs.length) :
    prodK ((List.zipWith (fun t => addU (u t)) ts rs).map (·.1.1)) = prodK (rs.map (·.1.1)) ∧
      prodK ((List.zipWith (fun t => addU (u t)) ts rs).map (·.1.2))
        = prodK (rs.map (·.1.2)) * prodK (ts.map u) ∧
      (List.zipWith (fun t => addU (u t)) ts rs).map (·.2) = rs.map (·.2) := by
  induction ts generalizing rs with
  | nil =>
    cases rs with
    | nil => exact ⟨rfl, (mul_one _).symm, rfl⟩
    | cons _ _ => cases hl
  | cons t ts ih =>
    cases rs with
    | nil => cases hl
    | cons r rs =>
      obtain ⟨h1, h2, h3⟩ := ih rs (Nat.succ.inj hl)
      refine ⟨congrArg (r.1.1 * ·) h1, ?_, congrArg (r.2 :: ·) h3⟩
      show r.1.2 * u t * prodK _ = r.1.2 * prodK _ * (u t * prodK _)
      rw [h2]
      exact mul_mul_mul_comm _ _ _ _

end Lists

section Main
variable {K : Type} [Field K] {R : Type} [Zero R] [Add R] [Neg R]
variable (e : R → K) (pd : PD K) (P : Prims R) (cfg : Cfg)

/-- The induction behind `regenW_eq`.  For a body, `subs` is the list of sub-traces of the old
    trace, with choice dict `X`, and `X'` the new dict; `rem` / `rem'` are the not-yet-visited tails
    of `X` / `X'` (outside `seen` they resolve like `X` / `X'`), and only the tails are compared off
    the selection.

    Both sides are the same recursion over the program; they differ in where the guard and the
    factors `unselE` sit.  `lanes_guard` / `steps_guard` pull the per-lane guard `eqOff` out of the
    loop, and `zipWith_addU` collects the per-lane factors `unselE` into the one product `addU`
    multiplies in. -/
theorem regenW_eq_aux (hsr : cfg.scanRegenDefined = true) :
    (∀ g : GF, g.condFree = true →
    ∀ (t : Tr R) (a : List Val) (s : Sel) (x x' : CM) (a' : List Val),
    g.Coh P a t → t.choices = some x → g.skel = some x.skel → g.skel = some x'.skel →
    g.regenW e pd cfg t s x' a'
      = if CM.eqOff s x x' then (g.assessS pd x' s a').map (addU (g.unselE e t s)) else none) ∧
    ∀ b : Body, b.condFree = true →
    ∀ (subs : TrL R) (env : List Val) (s : Sel) (X X' rem rem' : CML) (env' : List Val)
    (seen : List String),
    b.Coh P env subs → subs.choices = some X →
    (∀ a, seen.contains a = false → X.find? a = rem.find? a) →
    (∀ a, seen.contains a = false → X'.find? a = rem'.find? a) →
    b.skel = some rem.skel → b.skel = some rem'.skel → (∀ a ∈ b.addrs, a ∉ seen) →
    b.regenW e pd cfg subs s X' env' seen
      = if CML.eqOffKeys s rem rem'
        then (b.assessS pd X' s env' seen).map (addU (b.unselE e subs s)) else none := by
  apply GF.rec_both
  case dist =>
    intro d _ t a s x x' a' h hx _ hs'
    obtain ⟨v', rfl⟩ := CM.skel_leaf (Option.some.inj hs')
    cases t with
    | leaf vOld sOld =>
      cases Option.some.inj hx
      unfold GF.regenW
      simp only [GF.assessS, GF.unselE, CM.eqOff]
      by_cases hsl : s.leaf = true
      · simp [hsl, addU]
      · by_cases hv : v' = vOld
        · subst hv; simp [hsl, addU]
        · have hv' : ¬ vOld = v' := fun h => hv h.symm
          simp [hsl, hv, hv']
    | _ => exact h.elim
  case fn =>
    intro body ih hg t a s x x' a' h hx hs hs'
    cases t with
    | fn subs r sc =>
      obtain ⟨X, hX, rfl⟩ := Option.map_eq_some_iff.mp hx
      obtain ⟨X0, h0, hbs⟩ := GF.skel_fn hs
      cases h0
      obtain ⟨X', rfl, hbs'⟩ := GF.skel_fn hs'
      exact ih hg subs a s X X' X X' a' [] h.1 hX (fun _ _ => rfl) (fun _ _ => rfl) hbs hbs'
        (fun _ _ h => nomatch h)
    | _ => exact h.elim
  case vmap =>
    intro g axes n ih hg t a s x x' a' h hx hs hs'
    cases t with
    | vec old =>
      obtain ⟨hlen, hl⟩ := h
      obtain ⟨lx, hlx, rfl⟩ := Option.map_eq_some_iff.mp hx
      obtain ⟨l0, h0, -, h2, h3⟩ := skelLanes_lanes hs
      cases h0
      obtain ⟨l', rfl, -, h2', h3'⟩ := skelLanes_lanes hs'
      have key := lanes_guard s
        (fun i (p : Tr R × CM) => g.regenW e pd cfg p.1 s p.2 (laneArgs axes a' i))
        (fun i c' => g.assessS pd c' s (laneArgs axes a' i)) (fun t => addU (g.unselE e t s))
        (TrL.choices_toList old lx hlx) l'.toList 0 (h2.trans h2'.symm)
        (fun t ht c hc c' hc' i htc => by
          obtain ⟨a0, hcoh⟩ := lanesCoh_forall hl t ht
          exact ih hg t a0 s c c' _ hcoh htc (h3 c hc) (h3' c' hc'))
      unfold GF.regenW
      simp only [GF.assessS, GF.unselE, CM.eqOff, lenIs, hlen, h2', if_true, Option.bind_eq_bind,
        Option.bind_some, Option.pure_def, CML.eqOffPos_toList, key]
      cases listEqOff s lx.toList l'.toList
      · rfl
      · cases hfl : forLanes (fun i c' => g.assessS pd c' s (laneArgs axes a' i)) 0 l'.toList with
        | none => rfl
        | some rs =>
          obtain ⟨h1, h2, h3⟩ := zipWith_addU (fun t => g.unselE e t s) old.toList rs
            (by rw [forLanes_length hfl, hlen, h2'])
          simp only [if_true, Option.map_some, Option.bind_some, h1, h2, h3, addU]
    | _ => exact h.elim
  case scan =>
    intro g n ih hg t a s x x' a' h hx hs hs'
    cases t with
    | scan old c0 =>
      obtain ⟨hlen, hl⟩ := h
      obtain ⟨lx, hlx, rfl⟩ := Option.map_eq_some_iff.mp hx
      obtain ⟨l0, h0, -, h2, h3⟩ := skelLanes_lanes hs
      cases h0
      obtain ⟨l', rfl, -, h2', h3'⟩ := skelLanes_lanes hs'
      have key := steps_guard s
        (fun cr i (p : Tr R × CM) => (g.regenW e pd cfg p.1 s p.2 [cr, (a'.getD 1 .nil).nth i]).bind
          fun o => some ((o.1, o.2.snd), o.2.fst))
        (fun cr i c' => (g.assessS pd c' s [cr, (a'.getD 1 .nil).nth i]).bind
          fun o => some ((o.1, o.2.snd), o.2.fst)) (fun t => addU (g.unselE e t s))
        (TrL.choices_toList old lx hlx) l'.toList (a'.getD 0 .nil) 0 (h2.trans h2'.symm)
        (fun t ht c hc c' hc' cr i htc => by
          obtain ⟨a0, hcoh⟩ := stepsCoh_forall hl t ht
          rw [ih hg t a0 s c c' _ hcoh htc (h3 c hc) (h3' c' hc')]
          cases CM.eqOff s c c'
          · rfl
          · cases g.assessS pd c' s [cr, (a'.getD 1 .nil).nth i] <;> rfl)
      unfold GF.regenW
      simp only [GF.assessS, GF.unselE, CM.eqOff, lenIs, hlen, h2', if_true, hsr, Bool.not_true,
        Bool.false_eq_true, if_false,
        Option.bind_eq_bind, Option.bind_some, Option.pure_def, CML.eqOffPos_toList, key]
      cases listEqOff s lx.toList l'.toList
      · rfl
      · cases hfs : forSteps (fun cr i c' => (g.assessS pd c' s [cr, (a'.getD 1 .nil).nth i]).bind
            fun o => some ((o.1, o.2.snd), o.2.fst)) (a'.getD 0 .nil) 0 l'.toList with
        | none => rfl
        | some q =>
          obtain ⟨h1, h2, h3⟩ := zipWith_addU (fun t => g.unselE e t s) old.toList q.1
            (by rw [forSteps_length hfs, hlen, h2'])
          simp only [if_true, Option.map_some, Option.bind_some, h1, h2, h3, addU]
    | _ => exact h.elim
  case cond => exact fun _ _ _ _ hg => nomatch hg
  case ret =>
    intro ex _ subs env s X X' rem rem' env' seen _ _ _ _ hs hs' _
    cases CML.skel_eq_nil (Option.some.inj hs).symm
    cases CML.skel_eq_nil (Option.some.inj hs').symm
    show some ((1, 1), _) = some ((1, 1 * 1), _)
    rw [mul_one]
  case call =>
    intro addr g es rest ihg ihr hb subs env s X X' rem rem' env' seen h hX hf hf' hs hs' hseen
    obtain ⟨hnot, t, hft, hgc, hrc⟩ := h
    simp only [Body.condFree, Bool.and_eq_true] at hb
    obtain ⟨c, rem1, rfl, hgs, hrs⟩ := Body.skel_call hs
    obtain ⟨c', rem1', rfl, hgs', hrs'⟩ := Body.skel_call hs'
    obtain ⟨h3, hseen'⟩ := Body.seen_step hnot hseen
    obtain ⟨c0, hc0, hfc0⟩ := TrL.choices_find subs X hX addr t hft
    have hX'a := (hf' addr h3).trans (CML.find?_cons_self addr c' rem1')
    cases Option.some.inj (hfc0.symm.trans ((hf addr h3).trans (CML.find?_cons_self addr c rem1)))
    have ihg := ihg hb.1 t _ (s.matchAddr addr).2 c c' (es.map (·.eval env')) hgc hc0 hgs hgs'
    have ihr := fun env'' => ihr hb.2 subs (env ++ [t.retval]) s X X' rem1 rem1' env''
      (addr :: seen) hrc hX (CML.find?_step hf) (CML.find?_step hf') hrs hrs' hseen'
    unfold Body.regenW
    simp only [Body.assessS, Body.unselE, CML.eqOffKeys, h3, hft, hX'a, ihg, Bool.false_eq_true,
      if_false, decide_true, Bool.true_and, Option.bind_eq_bind, Option.pure_def]
    cases CM.eqOff (s.matchAddr addr).2 c c'
    · rfl
    · cases g.assessS pd c' (s.matchAddr addr).2 (es.map (·.eval env')) with
      | none => cases CML.eqOffKeys s rem1 rem1' <;> rfl
      | some o =>
        simp only [if_true, Option.map_some, Option.bind_some, Bool.true_and, addU, ihr]
        cases CML.eqOffKeys s rem1 rem1'
        · rfl
        · cases rest.assessS pd X' s (env' ++ [o.2]) (addr :: seen) with
          | none => rfl
          | some o' =>
            simp only [if_true, Option.map_some, Option.bind_some, addU]
            rw [mul_mul_mul_comm]

/-- `x'` is reachable iff it agrees with `x` off the selection, the proposal mass is the product of
    the masses of the selected sites of `x'`, the weight is the product of the masses of the
    unselected sites of `x'` times `unselE t` (the reciprocal of that product for `x`). -/
theorem regenW_eq (hsr : cfg.scanRegenDefined = true) (g : GF) (hcf : g.condFree = true)
    (t : Tr R) (a : List Val) (s : Sel) (x x' : CM) (a' : List Val)
    (hc : g.Coh P a t) (hx : t.choices = some x) (hs : g.skel = some x.skel)
    (hs' : g.skel = some x'.skel) :
    g.regenW e pd cfg t s x' a'
      = if CM.eqOff s x x' then (g.assessS pd x' s a').map (addU (g.unselE e t s)) else none :=
  (regenW_eq_aux e pd P cfg hsr).1 g hcf t a s x x' a' hc hx hs hs'

theorem regenW_eq_body (hsr : cfg.scanRegenDefined = true) : (b : Body) → b.condFree = true →
      ∀ (subs : TrL R) (env : List Val) (s : Sel) (X X' rem rem' : CML) (env' : List Val)
      (seen : List String),
      b.Coh P env subs → subs.choices = some X →
      (∀ a, seen.contains a = false → X.find? a = rem.find? a) →
      (∀ a, seen.contains a = false → X'.find? a = rem'.find? a) →
      b.skel = some rem.skel → b.skel = some rem'.skel → (∀ a ∈ b.addrs, a ∉ seen) →
      b.regenW e pd cfg subs s X' env' seen
        = if CML.eqOffKeys s rem rem'
          then (b.assessS pd X' s env' seen).map (addU (b.unselE e subs s)) else none :=
  (regenW_eq_aux e pd P cfg hsr).2

end Main

/-! ## the law of `regenerateD` -/

open Smc Smc.FinDist

section Defs
variable {K : Type} [Field K] {R : Type}

/-- proposal mass times a function of (retval, weight) -/
def massOf2 (o : Option ((K × K) × Val)) (Φ : Val → K → K) : K :=
  match o with
  | none => 0
  | some p => p.1.1 * Φ p.2 p.1.2

def chW (x : CM) (Φ : Val → K → K) (r : UpdK R K) : K :=
  if r.1.choices = some x then Φ r.1.retval r.2.1 else 0

/-- `massOf2` for a list of lane results -/
def massOfL2 (o : Option (List ((K × K) × Val))) (Ψ : List Val → K → K) : K :=
  match o with
  | none => 0
  | some rs => prodK (rs.map (·.1.1)) * Ψ (rs.map (·.2)) (prodK (rs.map (·.1.2)))

/-- `massOf2` for a run of step results; `Ψ` also reads the final carry -/
def massOfS2 (o : Option (List ((K × K) × Val) × Val)) (Ψ : List Val → Val → K → K) : K :=
  match o with
  | none => 0
  | some q => prodK (q.1.map (·.1.1)) * Ψ (q.1.map (·.2)) q.2 (prodK (q.1.map (·.1.2)))

/-- `tstB` of `GfiLaw.lean` with the accumulated weight -/
def tstB2 (X : CML) (Ψ : Val → K → K) (r : TrL R × Val × R × K × CML) : K :=
  if r.1.choices = some X then Ψ r.2.1 r.2.2.2.1 else 0

end Defs

section Loops
variable {K : Type} [Field K] {R : Type}

theorem lanes_regen (f : Nat → Tr R → FinDist K (Option (UpdK R K)))
    (h : Nat → Tr R → CM → Option ((K × K) × Val)) :
    ∀ (ts : List (Tr R)) (xs : List CM), ts.length = xs.length →
    (∀ i t x, x ∈ xs → ∀ Φ, E (f i t) (optK (chW x Φ)) = massOf2 (h i t x) Φ) →
    ∀ (i : Nat) (Ψ : List Val → K → K),
      E (forLanesD f i ts)
        (optK fun rs => if (rs.map (·.1)).map Tr.choices = xs.map some
          then Ψ ((rs.map (·.1)).map Tr.retval) (prodK (rs.map (·.2.1))) else 0)
      = massOfL2 (forLanes (fun i (p : Tr R × CM) => h i p.1 p.2) i (ts.zip xs)) Ψ := by
  intro ts
  induction ts with
  | nil =>
    intro xs hl _ i Ψ
    cases xs with
    | nil => exact (E_pureO _ _).trans (one_mul _).symm
    | cons _ _ => cases hl
  | cons t ts ih =>
    intro xs hl hf i Ψ
    cases xs with
    | nil => cases hl
    | cons x xs =>
      have ih' := ih xs (Nat.succ.inj hl) fun i t y hy => hf i t y (List.mem_cons_of_mem _ hy)
      refine (E_forLanesD_cons _ _ _ _ _).trans
        ((congrArg (fun F => E _ (optK F)) (funext fun b => ?_)).trans
        ((hf i t x List.mem_cons_self fun r w => massOfL2
          (forLanes (fun i (p : Tr R × CM) => h i p.1 p.2) (i + 1) (ts.zip xs))
          fun rs W => Ψ (r :: rs) (w * W)).trans ?_))
      · refine (E_choices_cons _ Tr.choices b.1 x xs (fun rs : List (UpdK R K) => rs.map (·.1))
          fun rs => Ψ (b.1.retval :: (rs.map (·.1)).map Tr.retval)
            (b.2.1 * prodK (rs.map (·.2.1)))).trans ?_
        exact if_congr Iff.rfl (ih' (i + 1) fun rs W => Ψ (b.1.retval :: rs) (b.2.1 * W)) rfl
      · dsimp only [List.zip_cons_cons, forLanes]
        cases h i t x with
        | none => rfl
        | some b =>
          cases forLanes (fun i (p : Tr R × CM) => h i p.1 p.2) (i + 1) (ts.zip xs) with
          | none => exact mul_zero _
          | some bs => exact (mul_assoc _ _ _).symm

theorem steps_regen (F : Val → Nat → Tr R → FinDist K (Option (UpdK R K)))
    (H : Val → Nat → Tr R → CM → Option ((K × K) × Val)) :
    ∀ (ts : List (Tr R)) (xs : List CM), ts.length = xs.length →
    (∀ c i t x, x ∈ xs → ∀ Φ, E (F c i t) (optK (chW x Φ)) = massOf2 (H c i t x) Φ) →
    ∀ (c : Val) (i : Nat) (Ψ : List Val → Val → K → K),
      E (forStepsD (fun c i t => bindO (F c i t) fun r => pureO (r, r.1.retval.fst)) c i ts)
        (optK fun q => if (q.1.map (·.1)).map Tr.choices = xs.map some
          then Ψ ((q.1.map (·.1)).map fun t => t.retval.snd) q.2 (prodK (q.1.map (·.2.1))) else 0)
      = massOfS2 (forSteps (fun c i (p : Tr R × CM) => (H c i p.1 p.2).bind fun o =>
            some ((o.1, o.2.snd), o.2.fst)) c i (ts.zip xs)) Ψ := by
  intro ts
  induction ts with
  | nil =>
    intro xs hl _ c i Ψ
    cases xs with
    | nil => exact (E_pureO _ _).trans (one_mul _).symm
    | cons _ _ => cases hl
  | cons t ts ih =>
    intro xs hl hF c i Ψ
    cases xs with
    | nil => cases hl
    | cons x xs =>
      have ih' := ih xs (Nat.succ.inj hl) fun c i t y hy => hF c i t y (List.mem_cons_of_mem _ hy)
      refine (E_forStepsD_cons _ _ _ _ _ _).trans ((E_bindO_pureO _ _ _).trans
        ((congrArg (fun F => E _ (optK F)) (funext fun b => ?_)).trans
        ((hF c i t x List.mem_cons_self fun r w => massOfS2 (forSteps
          (fun c i (p : Tr R × CM) => (H c i p.1 p.2).bind fun o => some ((o.1, o.2.snd), o.2.fst))
          r.fst (i + 1) (ts.zip xs)) fun rs c' W => Ψ (r.snd :: rs) c' (w * W)).trans ?_)))
      · refine (E_choices_cons _ Tr.choices b.1 x xs
          (fun q : List (UpdK R K) × Val => q.1.map (·.1))
          fun q => Ψ (b.1.retval.snd :: (q.1.map (·.1)).map fun t => t.retval.snd) q.2
            (b.2.1 * prodK (q.1.map (·.2.1)))).trans ?_
        exact if_congr Iff.rfl (ih' b.1.retval.fst (i + 1)
          fun rs c' W => Ψ (b.1.retval.snd :: rs) c' (b.2.1 * W)) rfl
      · dsimp only [List.zip_cons_cons, forSteps]
        cases H c i t x with
        | none => rfl
        | some b =>
          dsimp only [Option.bind_eq_bind, Option.bind_some, massOf2]
          cases forSteps (fun c i (p : Tr R × CM) => (H c i p.1 p.2).bind fun o =>
              some ((o.1, o.2.snd), o.2.fst)) b.2.fst (i + 1) (ts.zip xs) with
          | none => exact mul_zero _
          | some bs => exact (mul_assoc _ _ _).symm

end Loops

section Law
variable {K : Type} [Field K] {R : Type} [Zero R] [Add R] [Neg R]
variable (e : R → K) (pd : PD K) (P : Prims R) (cfg : Cfg)

theorem body_regen_strip_none (body : Body) : ∀ (old : TrL R) (s : Sel) (env : List Val)
    (subs : TrL R) (sc : R) (w : K) (d : CML) (X : CML) (Ψ : Val → K → K), subs.strip X = none →
    E (body.regenerateD e pd P cfg old s env subs sc w d) (optK (tstB2 X Ψ)) = 0 := by
  induction body using Body.list_induction with
  | ret ex =>
    intro old s env subs sc w d X Ψ h
    exact (E_pureO _ _).trans (if_neg fun hc => by
      rw [(TrL.choices_iff_strip _ _).mp hc] at h
      cases h)
  | call addr g es rest ih =>
    intro old s env subs sc w d X Ψ h
    dsimp only [Body.regenerateD]
    split
    · exact E_failO _
    · split
      · exact E_failO _
      · refine (E_bindO _ _ _).trans (E_eq_zero_fd _ _ fun o => ?_)
        cases o with
        | none => rfl
        | some r =>
          exact ih _ _ _ _ _ _ _ _ _ ((TrL.strip_snoc ..).trans (congrArg (Option.bind · _) h))

/-- The induction behind `regenD_law`.  For a body: `old` is the old trace's list of sub-traces;
    `subs`, `sc`, `w`, `d` are the new sub-traces, score, weight and discard accumulated before this
    body (`w` enters the weight handed to `Ψ` as a factor); `BodyLawInv subs seen X rem` as in
    `law_body`: `subs` spells out the full new dict `X` at the visited addresses `seen`, and `rem` is
    its not-yet-visited tail. -/
theorem regenLaw_aux (hpd : pd.WF) :
    (∀ g : GF, g.condFree = true → ∀ (t : Tr R) (s : Sel)
    (args : List Val) (x : CM) (Φ : Val → K → K), g.skel = some x.skel →
    E (g.regenerateD e pd P cfg t s args) (optK (chW x Φ))
      = massOf2 (g.regenW e pd cfg t s x args) Φ) ∧
    ∀ body : Body, body.condFree = true → ∀ (old : TrL R)
    (s : Sel) (env : List Val) (subs : TrL R) (sc : R) (w : K) (d : CML) (X rem : CML)
    (seen : List String) (Ψ : Val → K → K),
    BodyLawInv subs seen X rem → body.skel = some rem.skel →
    E (body.regenerateD e pd P cfg old s env subs sc w d) (optK (tstB2 X Ψ))
      = massOf2 (body.regenW e pd cfg old s X env seen) (fun r W => Ψ r (w * W)) := by
  refine GF.rec_both ?_ ?_ ?_ ?_ ?_ ?_ ?_
  · intro d _ t s args x Φ hs
    obtain ⟨v0, rfl⟩ := CM.skel_leaf (Option.some.inj hs)
    cases t with
    | leaf vOld sOld =>
      dsimp only [GF.regenerateD, GF.regenW]
      cases s.leaf with
      | true =>
        exact hpd.E_support d args v0
          (fun v => ((Tr.leaf v (-(P.lp d args v)), 1, some (.leaf vOld)) : UpdK R K)) _
          (fun v => Φ v 1) fun v => if_congr CM.some_leaf_eq_iff rfl rfl
      | false =>
        -- an unselected site keeps its value: only `v0 = vOld` is reachable, with proposal mass 1
        rw [if_neg Bool.false_ne_true, if_neg Bool.false_ne_true]
        refine (E_pureO _ _).trans ?_
        by_cases hv : v0 = vOld
        · subst hv
          rw [if_pos rfl]
          exact (if_pos rfl).trans (one_mul _).symm
        · rw [if_neg hv]
          exact if_neg fun h => hv (CM.leaf.inj (Option.some.inj h)).symm
    | _ => exact E_failO _
  · intro body ih hg t s args x Φ hs
    obtain ⟨X, rfl, hbs⟩ := GF.skel_fn hs
    cases t with
    | fn old r0 s0 =>
      refine (E_bindO_pureO _ _ _).trans (Eq.trans
        (congrArg (fun F => E _ (optK F)) (funext fun r => if_congr
          ((Option.map_injective (f := CM.node) fun _ _ => CM.node.inj).eq_iff (b := some X))
          rfl rfl)) ?_)
      exact (ih hg old s args .nil 0 1 .nil X X [] Φ (.nil X) hbs).trans
        (congrArg (massOf2 _) (funext fun r => funext fun W => congrArg (Φ r) (one_mul W)))
    | _ => exact E_failO _
  · intro g axes n ih hg t s args x Φ hs
    obtain ⟨l, rfl, hl1, hl2, hl3⟩ := skelLanes_lanes hs
    cases t with
    | vec old =>
      dsimp only [GF.regenerateD, GF.regenW]
      by_cases hn : old.toList.length = n
      · rw [if_pos hn, (lenIs_eq_some_iff (u := ())).mpr hn, (lenIs_eq_some_iff (u := ())).mpr hl2]
        refine (E_bindO_pureO _ _ _).trans (Eq.trans (congrArg (fun F => E _ (optK F))
          (funext fun rs => if_congr (TrL.choices_ofList_lanes hl1 _)
            (congrArg (Φ · _) (TrL.retvals_ofList _)) rfl)) ?_)
        refine (lanes_regen (fun i t => g.regenerateD e pd P cfg t s (laneArgs axes args i))
          (fun i t xi => g.regenW e pd cfg t s xi (laneArgs axes args i)) old.toList l.toList
          (hn.trans hl2.symm) (fun i t y hy Φ' => ih hg t s _ y Φ' (hl3 y hy)) 0
          (fun vs W => Φ (Val.ofList vs) W)).trans ?_
        cases forLanes (fun i (p : Tr R × CM) => g.regenW e pd cfg p.1 s p.2
          (laneArgs axes args i)) 0 (old.toList.zip l.toList) <;> rfl
      · rw [if_neg hn, show lenIs old.toList n = none from if_neg hn]
        exact E_failO _
    | _ => exact E_failO _
  · intro g n ih hg t s args x Φ hs
    obtain ⟨l, rfl, hl1, hl2, hl3⟩ := skelLanes_lanes hs
    cases t with
    | scan old c0 =>
      dsimp only [GF.regenerateD, GF.regenW]
      cases cfg.scanRegenDefined with
      | false => exact E_failO _
      | true =>
        rw [Bool.not_true, if_neg Bool.false_ne_true, if_neg Bool.false_ne_true]
        by_cases hn : old.toList.length = n
        · rw [if_pos hn,
            (lenIs_eq_some_iff (u := ())).mpr hn, (lenIs_eq_some_iff (u := ())).mpr hl2]
          refine (E_bindO_pureO _ _ _).trans (Eq.trans (congrArg (fun F => E _ (optK F))
            (funext fun q => if_congr (TrL.choices_ofList_lanes hl1 _)
              (congrArg (fun v => Φ (Val.pair q.2 v) _) (TrL.outs_ofList _)) rfl)) ?_)
          refine (steps_regen
            (fun c i t => g.regenerateD e pd P cfg t s [c, (args.getD 1 .nil).nth i])
            (fun c i t xi => g.regenW e pd cfg t s xi [c, (args.getD 1 .nil).nth i])
            old.toList l.toList (hn.trans hl2.symm)
            (fun c i t y hy Φ' => ih hg t s _ y Φ' (hl3 y hy))
            (args.getD 0 .nil) 0 (fun vs c' W => Φ (Val.pair c' (Val.ofList vs)) W)).trans ?_
          cases forSteps (fun c i (p : Tr R × CM) =>
            (g.regenW e pd cfg p.1 s p.2 [c, (args.getD 1 .nil).nth i]).bind fun o =>
              some ((o.1, o.2.snd), o.2.fst)) (args.getD 0 .nil) 0
            (old.toList.zip l.toList) <;> rfl
        · rw [if_neg hn, show lenIs old.toList n = none from if_neg hn]
          exact E_failO _
    | _ => exact E_failO _
  · exact fun _ _ _ _ hg => nomatch hg
  · intro ex _ old s env subs sc w d X rem seen Ψ hinv hs
    cases CML.skel_eq_nil (Option.some.inj hs).symm
    exact (E_pureO _ _).trans ((if_pos ((TrL.choices_iff_strip _ _).mpr hinv.strip)).trans
      ((one_mul _).symm.trans (congrArg (1 * Ψ _ ·) (mul_one w).symm)))
  · intro addr g es rest ihg ihr hg old s env subs sc w d X rem seen Ψ hinv hs
    have hg := Bool.and_eq_true_iff.mp hg
    obtain ⟨c, rem', rfl, hgs, hrs⟩ := Body.skel_call hs
    dsimp only [Body.regenerateD, Body.regenW]
    rw [hinv.seen_iff addr]
    cases hseen : seen.contains addr with
    | true => exact E_failO _
    | false =>
      rw [if_neg Bool.false_ne_true, if_neg Bool.false_ne_true, hinv.find addr hseen,
        CML.find?_cons_self]
      cases old.find? addr with
      | none => exact E_failO _
      | some sub =>
        dsimp only
        refine (E_bindO _ _ _).trans (Eq.trans
          (congrArg (fun F => E _ (optK F)) (funext fun r => ?_))
          ((ihg hg.1 sub _ _ c (fun rv W => massOf2 (rest.regenW e pd cfg old s X (env ++ [rv])
            (addr :: seen)) fun r' W' => Ψ r' (w * W * W')) hgs).trans ?_))
        · by_cases ht : r.1.choices = some c
          · exact (ihr hg.2 old s _ _ _ _ _ X rem' (addr :: seen) Ψ (hinv.step ht) hrs).trans
              (if_pos ht).symm
          · exact (body_regen_strip_none e pd P cfg rest _ _ _ _ _ _ _ _ _
              (hinv.strip_snoc_none ht)).trans (if_neg ht).symm
        cases g.regenW e pd cfg sub (s.matchAddr addr).2 c (es.map (·.eval env)) with
        | none => rfl
        | some o =>
          dsimp only [massOf2, Option.bind_eq_bind, Option.bind_some]
          cases rest.regenW e pd cfg old s X (env ++ [o.2]) (addr :: seen) with
          | none => exact mul_zero _
          | some o' =>
            exact (mul_assoc _ _ _).symm.trans
              (congrArg (o.1.1 * o'.1.1 * Ψ o'.2 ·) (mul_assoc _ _ _))

/-- The law of `regenerate`, Cond-free programs:
    `E[ 1{new choices = x'} · Φ(retval, weight) ] = q · Φ(r, W)` where `((q, W), r) = regenW t s x'`
    (0 when `regenW` is `none`). -/
theorem regenD_law (hpd : pd.WF) (g : GF) (hcf : g.condFree = true) (t : Tr R) (s : Sel)
    (args : List Val) (x' : CM) (Φ : Val → K → K) (hs : g.skel = some x'.skel) :
    E (g.regenerateD e pd P cfg t s args) (optK (chW x' Φ))
      = massOf2 (g.regenW e pd cfg t s x' args) Φ :=
  (regenLaw_aux e pd P cfg hpd).1 g hcf t s args x' Φ hs

theorem regen_law_body (hpd : pd.WF) : (body : Body) → body.condFree = true → ∀ (old : TrL R)
      (s : Sel) (env : List Val) (subs : TrL R) (sc : R) (w : K) (d : CML) (X rem : CML)
      (seen : List String) (Ψ : Val → K → K),
      BodyLawInv subs seen X rem → body.skel = some rem.skel →
      E (body.regenerateD e pd P cfg old s env subs sc w d) (optK (tstB2 X Ψ))
        = massOf2 (body.regenW e pd cfg old s X env seen) (fun r W => Ψ r (w * W)) :=
  (regenLaw_aux e pd P cfg hpd).2

end Law

end Genjax

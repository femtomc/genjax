import GenjaxModel.Model.Kalman
import Mathlib.LinearAlgebra.Matrix.NonsingularInverse
import Mathlib.LinearAlgebra.Matrix.Notation
import Mathlib.LinearAlgebra.Matrix.SchurComplement
import Mathlib.LinearAlgebra.Matrix.Symmetric
import Mathlib.Tactic.Ring
import Mathlib.Tactic.NormNum
import Mathlib.Tactic.LinearCombination
/-!
  C20 (Kalman, matrix case): the update step of `kalman_filter`
  (src/genjax/extras/state_space.py:434-530) is exact Bayesian conditioning, for every state
  dimension `n`, every observation dimension `p` (index types are arbitrary finite types) and every
  commutative ring / field of scalars.  All invertibility assumptions are explicit hypotheses
  `IsUnit (det _)`; no statement relies on the junk value `A⁻¹ = 0` of Mathlib's totalised inverse.

  The definitions mirror the code line by line (`smGain`, `smMean`, `smCov`: `kalman_smoother`,
  lines 533-609); each docstring quotes its line.
-/
set_option linter.unusedSectionVars false
noncomputable section
namespace Genjax.KalmanMatrix
open Matrix

variable {n p 𝕜 : Type*} [Fintype n] [DecidableEq n] [Fintype p] [DecidableEq p] [CommRing 𝕜]

/-- `innovation = y - C @ m` -/
def innov (C : Matrix p n 𝕜) (m : n → 𝕜) (y : p → 𝕜) : p → 𝕜 := y - C *ᵥ m

/-- `innovation_cov = C @ P @ C.T + R` -/
def innovCov (C : Matrix p n 𝕜) (P : Matrix n n 𝕜) (R : Matrix p p 𝕜) : Matrix p p 𝕜 :=
  C * P * Cᵀ + R

/-- `kalman_gain = P @ C.T @ inv(innovation_cov)` -/
def gain (C : Matrix p n 𝕜) (P : Matrix n n 𝕜) (R : Matrix p p 𝕜) : Matrix n p 𝕜 :=
  P * Cᵀ * (innovCov C P R)⁻¹

/-- `filtered_mean = m + kalman_gain @ innovation` -/
def updMean (C : Matrix p n 𝕜) (P : Matrix n n 𝕜) (R : Matrix p p 𝕜) (m : n → 𝕜) (y : p → 𝕜) :
    n → 𝕜 := m + gain C P R *ᵥ innov C m y

/-- `filtered_cov = P - kalman_gain @ C @ P` -/
def updCov (C : Matrix p n 𝕜) (P : Matrix n n 𝕜) (R : Matrix p p 𝕜) : Matrix n n 𝕜 :=
  P - gain C P R * C * P

/-- `predicted_mean = A @ m` -/
def predMean (A : Matrix n n 𝕜) (m : n → 𝕜) : n → 𝕜 := A *ᵥ m

/-- `predicted_cov = A @ P @ A.T + Q` -/
def predCov (A P Q : Matrix n n 𝕜) : Matrix n n 𝕜 := A * P * Aᵀ + Q

/-- `smoother_gain = P_t @ A.T @ inv(predicted_cov)` -/
def smGain (A P Q : Matrix n n 𝕜) : Matrix n n 𝕜 := P * Aᵀ * (predCov A P Q)⁻¹

/-- `smoothed_mean = m_t + smoother_gain @ (next_smoothed_mean - predicted_mean)` -/
def smMean (A P Q : Matrix n n 𝕜) (m ms : n → 𝕜) : n → 𝕜 :=
  m + smGain A P Q *ᵥ (ms - predMean A m)

/-- `smoothed_cov = P_t + smoother_gain @ (next_smoothed_cov - predicted_cov) @ smoother_gain.T` -/
def smCov (A P Q Ps : Matrix n n 𝕜) : Matrix n n 𝕜 :=
  P + smGain A P Q * (Ps - predCov A P Q) * (smGain A P Q)ᵀ

/-- the quadratic form `vᵀ M v` (the exponent of a Gaussian density is `-½ · qf Σ⁻¹ (x - μ)`) -/
def qf {ι : Type*} [Fintype ι] (M : Matrix ι ι 𝕜) (v : ι → 𝕜) : 𝕜 := v ⬝ᵥ M *ᵥ v

/-! ## Update step: algebra of the gain
     (in comments `S` = `innovCov`, `K` = `gain`, `m'` = `updMean`, `P'` = `updCov`) -/

section update
variable (C : Matrix p n 𝕜) (P : Matrix n n 𝕜) (R : Matrix p p 𝕜)

theorem innovCov_isSymm (hP : P.IsSymm) (hR : R.IsSymm) : (innovCov C P R).IsSymm := by
  refine IsSymm.add ?_ hR
  rw [IsSymm, transpose_mul, transpose_mul, transpose_transpose, hP.eq, Matrix.mul_assoc]

theorem gain_mul_innovCov (hS : IsUnit (innovCov C P R).det) :
    gain C P R * innovCov C P R = P * Cᵀ :=
  nonsing_inv_mul_cancel_right _ _ hS

theorem mul_gain_eq_one_sub_mul_inv (hS : IsUnit (innovCov C P R).det) :
    C * gain C P R = 1 - R * (innovCov C P R)⁻¹ := by
  rw [eq_sub_iff_add_eq, ← mul_nonsing_inv _ hS, gain, ← Matrix.mul_assoc, ← Matrix.mul_assoc,
    ← Matrix.add_mul]
  rfl

theorem updCov_eq_one_sub_mul : updCov C P R = (1 - gain C P R * C) * P := by
  rw [Matrix.sub_mul, Matrix.one_mul]
  rfl

/-- the identity behind the Joseph form, the precision form and `K = P' Cᵀ R⁻¹` -/
theorem updCov_mul_transpose (hS : IsUnit (innovCov C P R).det) :
    updCov C P R * Cᵀ = gain C P R * R := by
  rw [updCov, Matrix.sub_mul, ← gain_mul_innovCov C P R hS, Matrix.mul_assoc, Matrix.mul_assoc,
    ← Matrix.mul_assoc C, ← Matrix.mul_sub, innovCov, add_sub_cancel_left]

/-- the Joseph form of the covariance update (needs only `S` invertible, no symmetry) -/
theorem updCov_joseph (hS : IsUnit (innovCov C P R).det) :
    updCov C P R =
      (1 - gain C P R * C) * P * (1 - gain C P R * C)ᵀ + gain C P R * R * (gain C P R)ᵀ := by
  rw [← updCov_eq_one_sub_mul, transpose_sub, transpose_one, transpose_mul, Matrix.mul_sub,
    Matrix.mul_one, ← Matrix.mul_assoc, updCov_mul_transpose C P R hS, sub_add_cancel]

theorem gain_transpose (hP : P.IsSymm) (hR : R.IsSymm) :
    (gain C P R)ᵀ = (innovCov C P R)⁻¹ * C * P := by
  rw [gain, transpose_mul, transpose_mul, transpose_transpose, hP.eq,
    (innovCov_isSymm C P R hP hR).inv.eq, Matrix.mul_assoc]

theorem updCov_eq_sub_gain_innovCov_gainT (hP : P.IsSymm) (hR : R.IsSymm)
    (hS : IsUnit (innovCov C P R).det) :
    updCov C P R = P - gain C P R * innovCov C P R * (gain C P R)ᵀ := by
  rw [gain_mul_innovCov C P R hS, gain_transpose C P R hP hR, ← Matrix.mul_assoc,
    ← Matrix.mul_assoc]
  rfl

theorem updCov_isSymm (hP : P.IsSymm) (hR : R.IsSymm) : (updCov C P R).IsSymm := by
  refine IsSymm.sub hP ?_
  rw [IsSymm, transpose_mul, transpose_mul, gain_transpose C P R hP hR, hP.eq, ← Matrix.mul_assoc,
    ← Matrix.mul_assoc, ← Matrix.mul_assoc]
  rfl

theorem gain_eq_updCov_mul (hR : IsUnit R.det) (hS : IsUnit (innovCov C P R).det) :
    gain C P R = updCov C P R * Cᵀ * R⁻¹ := by
  rw [updCov_mul_transpose C P R hS, mul_nonsing_inv_cancel_right _ _ hR]

/-! ## Precision (information) form: posterior precision = prior precision + Cᵀ R⁻¹ C -/

/-- Woodbury, proved directly -/
theorem updCov_mul_info (hP : IsUnit P.det) (hR : IsUnit R.det)
    (hS : IsUnit (innovCov C P R).det) : updCov C P R * (P⁻¹ + Cᵀ * R⁻¹ * C) = 1 := by
  rw [Matrix.mul_add, ← Matrix.mul_assoc, ← Matrix.mul_assoc, updCov_mul_transpose C P R hS,
    mul_nonsing_inv_cancel_right _ _ hR, updCov_eq_one_sub_mul,
    mul_nonsing_inv_cancel_right _ _ hP, sub_add_cancel]

theorem updCov_det_isUnit (hP : IsUnit P.det) (hR : IsUnit R.det)
    (hS : IsUnit (innovCov C P R).det) : IsUnit (updCov C P R).det :=
  isUnit_det_of_right_inverse (updCov_mul_info C P R hP hR hS)

theorem updCov_inv (hP : IsUnit P.det) (hR : IsUnit R.det)
    (hS : IsUnit (innovCov C P R).det) : (updCov C P R)⁻¹ = P⁻¹ + Cᵀ * R⁻¹ * C :=
  inv_eq_right_inv (updCov_mul_info C P R hP hR hS)

theorem updCov_inv_mul_gain (hP : IsUnit P.det) (hR : IsUnit R.det)
    (hS : IsUnit (innovCov C P R).det) : (updCov C P R)⁻¹ * gain C P R = Cᵀ * R⁻¹ := by
  rw [gain_eq_updCov_mul C P R hR hS, Matrix.mul_assoc,
    nonsing_inv_mul_cancel_left _ _ (updCov_det_isUnit C P R hP hR hS)]

theorem updCov_inv_mulVec_updMean (hP : IsUnit P.det) (hR : IsUnit R.det)
    (hS : IsUnit (innovCov C P R).det) (m : n → 𝕜) (y : p → 𝕜) :
    (updCov C P R)⁻¹ *ᵥ updMean C P R m y = P⁻¹ *ᵥ m + (Cᵀ * R⁻¹) *ᵥ y := by
  rw [updMean, innov, mulVec_add, mulVec_mulVec, updCov_inv_mul_gain C P R hP hR hS,
    updCov_inv C P R hP hR hS, mulVec_sub, add_mulVec, mulVec_mulVec, Matrix.mul_assoc,
    add_add_sub_cancel]

theorem gainT_mul_updCov_inv (hPs : P.IsSymm) (hRs : R.IsSymm) (hP : IsUnit P.det)
    (hR : IsUnit R.det) (hS : IsUnit (innovCov C P R).det) :
    (gain C P R)ᵀ * (updCov C P R)⁻¹ = R⁻¹ * C := by
  have h := congrArg transpose (updCov_inv_mul_gain C P R hP hR hS)
  rwa [transpose_mul, transpose_mul, transpose_transpose, (updCov_isSymm C P R hPs hRs).inv.eq,
    hRs.inv.eq] at h

/-! ## Completing the square -/

theorem mulVec_dotProduct {a b : Type*} [Fintype a] [Fintype b] (G : Matrix a b 𝕜) (e : b → 𝕜)
    (x : a → 𝕜) : (G *ᵥ e) ⬝ᵥ x = e ⬝ᵥ Gᵀ *ᵥ x := by
  rw [dotProduct_mulVec, vecMul_transpose]

theorem qf_sub_mulVec {a b : Type*} [Fintype a] [Fintype b] (Λ : Matrix a a 𝕜) (G : Matrix a b 𝕜)
    (d : a → 𝕜) (e : b → 𝕜) :
    qf Λ (d - G *ᵥ e) =
      qf Λ d - d ⬝ᵥ (Λ * G) *ᵥ e - e ⬝ᵥ (Gᵀ * Λ) *ᵥ d + qf (Gᵀ * Λ * G) e := by
  unfold qf
  simp only [mulVec_sub, sub_dotProduct, dotProduct_sub, mulVec_mulVec, mulVec_dotProduct,
    Matrix.mul_assoc]
  ring

/-- completing the square: −2·log of `prior(x) · lik(y|x)` and of `post(x) · marg(y)` agree up to
    the constants treated in `update_normaliser`. -/
theorem update_completes_square (hPs : P.IsSymm) (hRs : R.IsSymm) (hP : IsUnit P.det)
    (hR : IsUnit R.det) (hS : IsUnit (innovCov C P R).det) (m x : n → 𝕜) (y : p → 𝕜) :
    qf P⁻¹ (x - m) + qf R⁻¹ (y - C *ᵥ x) =
      qf (updCov C P R)⁻¹ (x - updMean C P R m y) + qf (innovCov C P R)⁻¹ (innov C m y) := by
  have e : y - C *ᵥ x = innov C m y - C *ᵥ (x - m) := by
    rw [innov, mulVec_sub, sub_sub_sub_cancel_right]
  -- expand both shifted forms, then `Kᵀ P'⁻¹ = R⁻¹ C`, `P'⁻¹ K = Cᵀ R⁻¹`, hence
  -- `Kᵀ P'⁻¹ K = R⁻¹ C K = R⁻¹ - S⁻¹`, and `P'⁻¹ = P⁻¹ + Cᵀ R⁻¹ C`
  rw [e, updMean, sub_add_eq_sub_sub, qf_sub_mulVec, qf_sub_mulVec,
    gainT_mul_updCov_inv C P R hPs hRs hP hR hS, updCov_inv_mul_gain C P R hP hR hS,
    Matrix.mul_assoc R⁻¹, mul_gain_eq_one_sub_mul_inv C P R hS, Matrix.mul_sub, Matrix.mul_one,
    nonsing_inv_mul_cancel_left _ _ hR, updCov_inv C P R hP hR hS]
  unfold qf
  simp only [add_mulVec, sub_mulVec, dotProduct_add, dotProduct_sub]
  ring

/-! ## Determinants / normalising constants -/

/-- the normalising constants (only `S` invertible is needed).  Together with
    `update_completes_square` this is `N(x; m, P) · N(y; C x, R) = N(y; C m, S) · N(x; m', P')`. -/
theorem update_normaliser (hS : IsUnit (innovCov C P R).det) :
    P.det * R.det = (innovCov C P R).det * (updCov C P R).det := by
  -- Sylvester: `det (1 - K C) = det (1 - C K)`, and `1 - C K = R S⁻¹`
  rw [updCov_eq_one_sub_mul, det_mul, det_one_sub_mul_comm, mul_gain_eq_one_sub_mul_inv C P R hS,
    sub_sub_cancel, det_mul]
  linear_combination (-(P.det * R.det)) * det_nonsing_inv_mul_det _ hS

end update

/-! ## Predict step -/

section dynamics
variable (A P Q : Matrix n n 𝕜)

/-- the predict step is the marginalisation `x' = A x + w`: the innovation covariance of the
    "observation" `x'` of `x` through `(A, Q)` is exactly `predCov`, so every fact about `innovCov`
    (symmetry, positive definiteness) is one about `predCov` -/
theorem predCov_eq_innovCov : predCov A P Q = innovCov A P Q := rfl

/-- so `predCov` is positive semidefinite whenever `P` and `Q` are, over any ordered field -/
theorem qf_predCov (v : n → 𝕜) : qf (predCov A P Q) v = qf P (Aᵀ *ᵥ v) + qf Q v := by
  unfold qf predCov
  rw [add_mulVec, dotProduct_add, ← mulVec_mulVec, ← mulVec_mulVec, mulVec_dotProduct,
    transpose_transpose]

/-! ## RTS smoother step

`smGain A P Q` and `smMean A P Q m ms` are by definition `gain A P Q` and `updMean A P Q m ms`: the
smoother step is the update step for the "observation" `x_{t+1} = A x_t + w` of `x_t`, so
`update_completes_square` and `update_normaliser` at `(A, P, Q)` describe the backward kernel. -/

/-- law of total covariance: (covariance of `x_t | x_{t+1}, y_{1:t}`) + (covariance of the
    conditional mean) -/
theorem smCov_eq_updCov_add (hP : P.IsSymm) (hQ : Q.IsSymm) (hS : IsUnit (predCov A P Q).det)
    (Ps : Matrix n n 𝕜) :
    smCov A P Q Ps = updCov A P Q + smGain A P Q * Ps * (smGain A P Q)ᵀ := by
  rw [updCov_eq_sub_gain_innovCov_gainT A P Q hP hQ hS, smCov, Matrix.mul_sub, Matrix.sub_mul,
    ← add_sub_assoc, sub_add_eq_add_sub]
  rfl

theorem smCov_isSymm (hP : P.IsSymm) (hQ : Q.IsSymm) {Ps : Matrix n n 𝕜} (hPs : Ps.IsSymm) :
    (smCov A P Q Ps).IsSymm := by
  refine IsSymm.add hP ?_
  rw [IsSymm, transpose_mul, transpose_mul, transpose_transpose,
    (hPs.sub (show (predCov A P Q).IsSymm from innovCov_isSymm A P Q hP hQ)).eq, Matrix.mul_assoc]

/-- no information from the future ⇒ the smoother returns the filtered moments -/
theorem smCov_self : smCov A P Q (predCov A P Q) = P := by
  rw [smCov, sub_self, Matrix.mul_zero, Matrix.zero_mul, add_zero]

theorem smMean_self (m : n → 𝕜) : smMean A P Q m (predMean A m) = m := by
  rw [smMean, sub_self, mulVec_zero, add_zero]

end dynamics

/-! ## The whole recursion (`kalman_filter`'s initial step followed by `lax.scan(scan_step)`) -/

section recursion
variable (A Q : Matrix n n 𝕜) (C : Matrix p n 𝕜) (R : Matrix p p 𝕜)

/-- one `scan_step`: predict, then update with observation `y`; state = (filtered mean, cov) -/
def filterStep (s : (n → 𝕜) × Matrix n n 𝕜) (y : p → 𝕜) : (n → 𝕜) × Matrix n n 𝕜 :=
  (updMean C (predCov A s.2 Q) R (predMean A s.1) y, updCov C (predCov A s.2 Q) R)

/-- `lax.scan(scan_step, carry, …)`: the list of filtered moments for `t = 1, …, T-1` -/
def scanFilter : (n → 𝕜) × Matrix n n 𝕜 → List (p → 𝕜) → List ((n → 𝕜) × Matrix n n 𝕜)
  | _, [] => []
  | s, y :: ys => filterStep A Q C R s y :: scanFilter (filterStep A Q C R s y) ys

/-- `kalman_filter(observations, m0, P0, A, Q, C, R)`: `(filtered_means[t], filtered_covs[t])` -/
def kalmanFilter (m0 : n → 𝕜) (P0 : Matrix n n 𝕜) : List (p → 𝕜) → List ((n → 𝕜) × Matrix n n 𝕜)
  | [] => []
  | y :: ys => (updMean C P0 R m0 y, updCov C P0 R) ::
      scanFilter A Q C R (updMean C P0 R m0 y, updCov C P0 R) ys

theorem scanFilter_length (s : (n → 𝕜) × Matrix n n 𝕜) (ys : List (p → 𝕜)) :
    (scanFilter A Q C R s ys).length = ys.length := by
  induction ys generalizing s with
  | nil => rfl
  | cons y ys ih => simp [scanFilter, ih]

theorem kalmanFilter_length (m0 : n → 𝕜) (P0 : Matrix n n 𝕜) (ys : List (p → 𝕜)) :
    (kalmanFilter A Q C R m0 P0 ys).length = ys.length := by
  cases ys with
  | nil => rfl
  | cons y ys => simp [kalmanFilter, scanFilter_length]

theorem kalmanFilter_invariant (I : Matrix n n 𝕜 → Prop)
    (hpred : ∀ P, I P → I (predCov A P Q)) (hupd : ∀ P, I P → I (updCov C P R))
    (m0 : n → 𝕜) (P0 : Matrix n n 𝕜) (h0 : I P0) (ys : List (p → 𝕜)) :
    ∀ s ∈ kalmanFilter A Q C R m0 P0 ys, I s.2 := by
  have hscan : ∀ (ys : List (p → 𝕜)) (s : (n → 𝕜) × Matrix n n 𝕜), I s.2 →
      ∀ s' ∈ scanFilter A Q C R s ys, I s'.2 := by
    intro ys
    induction ys with
    | nil => exact fun _ _ _ hs' => nomatch hs'
    | cons y ys ih =>
      intro s hs
      have hstep : I (filterStep A Q C R s y).2 := hupd _ (hpred _ hs)
      exact List.forall_mem_cons.2 ⟨hstep, ih _ hstep⟩
  cases ys with
  | nil => exact fun _ hs => nomatch hs
  | cons y ys => exact List.forall_mem_cons.2 ⟨hupd _ h0, hscan ys _ (hupd _ h0)⟩

end recursion

/-! ## `d_state = d_obs = 1`: the matrix definitions reduce to the executable scalar model
     `Model/Kalman.lean` (which the driver runs and the correspondence harness compares with the
     code) -/

section scalar
variable {F : Type} [Field F]

def sc (a : F) : Matrix (Fin 1) (Fin 1) F := of fun _ _ => a
def sv (a : F) : Fin 1 → F := fun _ => a

theorem sc_eq (a : F) : sc a = !![a] :=
  Matrix.ext fun i j => by rw [Subsingleton.elim i 0, Subsingleton.elim j 0]; rfl
theorem sv_eq (a : F) : sv a = ![a] := funext fun i => by rw [Subsingleton.elim i 0]; rfl
theorem sc_mul (a b : F) : sc a * sc b = sc (a * b) := by
  ext i j; rw [Matrix.mul_apply, Fin.sum_univ_one]; rfl
theorem sc_add (a b : F) : sc a + sc b = sc (a + b) := rfl
theorem sc_sub (a b : F) : sc a - sc b = sc (a - b) := rfl
theorem sc_transpose (a : F) : (sc a)ᵀ = sc a := rfl
theorem sc_inv (a : F) : (sc a)⁻¹ = sc a⁻¹ := by
  rw [inv_subsingleton]; ext i j
  rw [Subsingleton.elim j i, diagonal_apply_eq, Ring.inverse_eq_inv']; rfl
theorem sc_det (a : F) : (sc a).det = a := det_fin_one _
theorem sc_mulVec (a b : F) : sc a *ᵥ sv b = sv (a * b) := by
  ext i; rw [mulVec, dotProduct, Fin.sum_univ_one]; rfl
theorem sv_add (a b : F) : sv a + sv b = sv (a + b) := rfl
theorem sv_sub (a b : F) : sv a - sv b = sv (a - b) := rfl
theorem qf_sc (a v : F) : qf (sc a) (sv v) = a * v ^ 2 := by
  rw [qf, sc_mulVec, sq, ← mul_left_comm]; exact Fin.sum_univ_one _

theorem innovCov_one (c P r m : F) :
    innovCov (sc c) (sc P) (sc r) = sc (Kalman.innovCov c r ⟨m, P⟩) := by
  simp only [innovCov, Kalman.innovCov, sc_mul, sc_add, sc_transpose]

theorem updCov_one (c P r m y : F) :
    updCov (sc c) (sc P) (sc r) = sc (Kalman.update c r y ⟨m, P⟩).P := by
  simp only [updCov, gain, innovCov, Kalman.update, Kalman.innovCov, sc_mul, sc_add, sc_sub,
    sc_transpose, sc_inv, div_eq_mul_inv]

theorem updMean_one (c P r m y : F) :
    updMean (sc c) (sc P) (sc r) (sv m) (sv y) = sv (Kalman.update c r y ⟨m, P⟩).m := by
  simp only [updMean, innov, gain, innovCov, Kalman.update, Kalman.innovCov, sc_mul, sc_add,
    sc_transpose, sc_inv, div_eq_mul_inv, sc_mulVec, sv_add, sv_sub]

theorem predMean_one (a q m P : F) :
    predMean (sc a) (sv m) = sv (Kalman.predict a q ⟨m, P⟩).m :=
  sc_mulVec a m

theorem predCov_one (a q m P : F) :
    predCov (sc a) (sc P) (sc q) = sc (Kalman.predict a q ⟨m, P⟩).P := by
  simp only [predCov, Kalman.predict, sc_mul, sc_add, sc_transpose]

/-- the matrix completing-the-square theorem at `n = p = 1` is the scalar identity about the
    executable model `Kalman.update` -/
theorem scalar_completes_square_of_matrix (c r y x : F) (s : Kalman.Gauss F)
    (hP : s.P ≠ 0) (hr : r ≠ 0) (hS : Kalman.innovCov c r s ≠ 0) :
    s.P⁻¹ * (x - s.m) ^ 2 + r⁻¹ * (y - c * x) ^ 2 =
      (Kalman.update c r y s).P⁻¹ * (x - (Kalman.update c r y s).m) ^ 2 +
        (Kalman.innovCov c r s)⁻¹ * (y - c * s.m) ^ 2 := by
  obtain ⟨m, P⟩ := s
  have h := update_completes_square (sc c) (sc P) (sc r) (sc_transpose P) (sc_transpose r)
    (by rw [sc_det]; exact hP.isUnit) (by rw [sc_det]; exact hr.isUnit)
    (by rw [innovCov_one c P r m, sc_det]; exact hS.isUnit) (sv m) (sv x) (sv y)
  rw [updCov_one c P r m y, updMean_one, innovCov_one c P r m] at h
  simpa only [innov, sc_inv, sc_mulVec, sv_sub, qf_sc] using h

end scalar

/-! ## A concrete instance (non-vacuity): 2 states, 1 observation, rational entries -/

namespace Example

def P : Matrix (Fin 2) (Fin 2) ℚ := !![2, 1; 1, 2]
/-- observation matrix (`d_obs = 1 ≠ d_state = 2`) -/
def C : Matrix (Fin 1) (Fin 2) ℚ := !![1, 0]
def R : Matrix (Fin 1) (Fin 1) ℚ := !![1]

theorem P_det : P.det = 3 := by rw [P, det_fin_two_of]; norm_num
theorem R_det : R.det = 1 := det_fin_one_of _
theorem S_det : (innovCov C P R).det = 3 := by decide +kernel

theorem hyps : P.IsSymm ∧ R.IsSymm ∧ P.det ≠ 0 ∧ R.det ≠ 0 ∧ (innovCov C P R).det ≠ 0 := by
  refine ⟨by decide, by decide, ?_, ?_, ?_⟩
  · rw [P_det]; norm_num
  · rw [R_det]; norm_num
  · rw [S_det]; norm_num

end Example

end Genjax.KalmanMatrix

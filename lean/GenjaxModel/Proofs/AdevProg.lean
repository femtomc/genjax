import GenjaxModel.Model.AdevProg
import GenjaxModel.Proofs.Adev
import GenjaxModel.Proofs.Smc
import Mathlib.Data.List.GetD
/-!
  C11, compositions: the estimator `Prog.est` the ADEV interpreter computes for a discrete program
  with ANY number of sites and ANY mix of strategies is unbiased for `Prog.exact` (value and
  derivative).  The inductive step is the tower property (`meanD_bind`) plus the fact that every
  primitive is affine in each continuation estimate it consumes, so that it commutes with taking
  the mean `meanD` of a normalised continuation estimate.
-/

namespace Genjax.Adev
open Genjax.Smc.FinDist (E mass)
open Genjax.Smc (FinDist E_bind E_pure E_cons E_nil E_add E_mul_left E_mul_right E_const
  E_congr_supp mass_sequence supp)

variable {K : Type} [Field K]

/-! ### expectation and mass of a finite distribution -/

theorem E_neg {α : Type} (d : FinDist K α) (f : α → K) : E d (fun a => -f a) = -E d f := by
  have := E_mul_left d (-1) f
  simpa only [neg_mul, one_mul] using this

theorem E_sub {α : Type} (d : FinDist K α) (f g : α → K) :
    E d (fun a => f a - g a) = E d f - E d g := by
  simp only [sub_eq_add_neg, E_add, E_neg]

theorem mass_pure {α : Type} (a : α) : mass (FinDist.pure a : FinDist K α) = 1 := E_pure a _

theorem mass_bind {α β : Type} (d : FinDist K α) (f : α → FinDist K β) :
    mass (FinDist.bind d f) = E d (fun a => mass (f a)) := E_bind d f _

theorem mass_bind_one {α β : Type} (d : FinDist K α) (f : α → FinDist K β) (hd : mass d = 1)
    (hf : ∀ a ∈ supp d, mass (f a) = 1) : mass (FinDist.bind d f) = 1 := by
  rw [mass_bind, E_congr_supp d _ (fun _ => 1) hf, E_const, hd, one_mul]

theorem mass_bind_pure {α β : Type} (d : FinDist K α) (g : α → β) :
    mass (FinDist.bind d fun a => FinDist.pure (g a)) = mass d := by
  simp only [mass_bind, mass_pure]
  rfl

theorem forall_mem_pair {α : Type} {P : α → Prop} {a b : α} (ha : P a) (hb : P b) : ∀ x ∈ [a, b], P x :=
  List.forall_mem_cons.mpr ⟨ha, List.forall_mem_singleton.mpr hb⟩

theorem E_sequence_zipWith {α β : Type} (g : β → α → K) (ps : List β) (ds : List (FinDist K α))
    (hm : ∀ d ∈ ds, mass d = 1) :
    E (FinDist.sequence ds) (fun as => sumK (List.zipWith g ps as))
      = sumK (List.zipWith (fun p d => E d (g p)) ps ds) := by
  induction ds generalizing ps with
  | nil => rw [FinDist.sequence, E_pure, List.zipWith_nil_right, List.zipWith_nil_right]
  | cons d ds ih =>
    cases ps with
    | nil => simp only [List.zipWith_nil_left, sumK, E_const, mul_zero]
    | cons p ps =>
      have hm' : ∀ d' ∈ ds, mass d' = 1 := fun d' hd' => hm d' (List.mem_cons_of_mem _ hd')
      simp only [FinDist.sequence, E_bind, E_pure, List.zipWith_cons_cons, sumK, E_add, E_const,
        ih ps hm', mass_sequence ds hm', hm d List.mem_cons_self, one_mul]

def meanD (d : FinDist K (Dual K)) : Dual K := ⟨E d (fun k => k.v), E d (fun k => k.d)⟩

theorem meanD_v (d : FinDist K (Dual K)) : E d (fun k => k.v) = (meanD d).v := rfl
theorem meanD_d (d : FinDist K (Dual K)) : E d (fun k => k.d) = (meanD d).d := rfl

theorem meanD_pure (r : Dual K) : meanD (FinDist.pure r) = r :=
  Dual.ext (E_pure r _) (E_pure r _)

/-- tower property -/
theorem meanD_bind {α : Type} (d : FinDist K α) (f : α → FinDist K (Dual K)) :
    meanD (FinDist.bind d f) = ⟨E d fun a => (meanD (f a)).v, E d fun a => (meanD (f a)).d⟩ :=
  Dual.ext (E_bind d f _) (E_bind d f _)

/-! ### sums in dual arithmetic -/

theorem sumK_eq_smc : (sumK : List K → K) = Genjax.Smc.sumK := by
  funext l
  induction l with
  | nil => rfl
  | cons x xs ih => exact congrArg (x + ·) ih

theorem sumD_v (ps : List (Dual K)) : (sumD ps).v = sumK (ps.map fun p => p.v) := by
  induction ps with
  | nil => rfl
  | cons p ps ih => exact congrArg (p.v + ·) ih

theorem sumD_d (ps : List (Dual K)) : (sumD ps).d = sumK (ps.map fun p => p.d) := by
  induction ps with
  | nil => rfl
  | cons p ps ih => exact congrArg (p.d + ·) ih

theorem enumAll_v (ps ks : List (Dual K)) :
    (enumAll ps ks).v = sumK (List.zipWith (fun p k => p.v * k.v) ps ks) := by
  induction ps generalizing ks with
  | nil => rfl
  | cons p ps ih =>
    cases ks with
    | nil => rfl
    | cons k ks => exact congrArg (p.v * k.v + ·) (ih ks)

theorem enumAll_d (ps ks : List (Dual K)) :
    (enumAll ps ks).d = sumK (List.zipWith (fun p k => p.d * k.v + p.v * k.d) ps ks) := by
  induction ps generalizing ks with
  | nil => rfl
  | cons p ps ih =>
    cases ks with
    | nil => rfl
    | cons k ks => exact congrArg (p.d * k.v + p.v * k.d + ·) (ih ks)

theorem map_range_getD_zipWith {α β γ : Type} (l : List α) (d : α) (f : Nat → β) (h : α → β → γ) :
    (List.range l.length).map (fun i => h (l.getD i d) (f i))
      = List.zipWith h l ((List.range l.length).map f) := by
  apply List.ext_getElem
  · simp
  · intro i h1 h2
    have hi : i < l.length := by simpa using h1
    simp only [List.getElem_map, List.getElem_range, List.getElem_zipWith]
    rw [List.getD_eq_getElem _ _ hi]

theorem enumAll_range_v (ps : List (Dual K)) (f : Nat → Dual K) :
    (enumAll ps ((List.range ps.length).map f)).v
      = sumK ((List.range ps.length).map fun i => (ps.getD i ⟨0, 0⟩).v * (f i).v) := by
  rw [enumAll_v, map_range_getD_zipWith ps ⟨0, 0⟩ f (fun p k => p.v * k.v)]

theorem enumAll_range_d (ps : List (Dual K)) (f : Nat → Dual K) :
    (enumAll ps ((List.range ps.length).map f)).d
      = sumK ((List.range ps.length).map fun i =>
          (ps.getD i ⟨0, 0⟩).d * (f i).v + (ps.getD i ⟨0, 0⟩).v * (f i).d) := by
  rw [enumAll_d, map_range_getD_zipWith ps ⟨0, 0⟩ f (fun p k => p.d * k.v + p.v * k.d)]

theorem reinforceExpectedTangent_range (ps : List (Dual K)) (f : Nat → Dual K) :
    reinforceExpectedTangent ps ((List.range ps.length).map f)
      = sumK ((List.range ps.length).map fun i =>
          (ps.getD i ⟨0, 0⟩).v * (reinforce (ps.getD i ⟨0, 0⟩) (f i)).d) := by
  rw [reinforceExpectedTangent,
    map_range_getD_zipWith ps ⟨0, 0⟩ f (fun p k => p.v * (reinforce p k).d)]

theorem Dual.add_mul (a b c : Dual K) :
    Dual.add (Dual.mul a c) (Dual.mul b c) = Dual.mul (Dual.add a b) c :=
  Dual.ext (_root_.add_mul _ _ _).symm (by simp only [Dual.add, Dual.mul]; ring)

theorem enumAll_replicate (ps : List (Dual K)) (c : Dual K) :
    enumAll ps (List.replicate ps.length c) = Dual.mul (sumD ps) c := by
  induction ps with
  | nil => exact Dual.ext (zero_mul _).symm (by simp only [Dual.mul, sumD, zero_mul, add_zero]; rfl)
  | cons p ps ih => exact (congrArg (Dual.add (Dual.mul p c)) ih).trans (Dual.add_mul p _ c)

/-- flip_enum_parallel computes the same Dual as flip_enum -/
theorem flipEnumPar_eq (p kT kF : Dual K) :
    enumAll [p, Dual.sub (Dual.const 1) p] [kT, kF] = flipEnum p kT kF :=
  Dual.ext (congrArg (_ + ·) (add_zero _)) (congrArg (_ + ·) (add_zero _))

/-! ### the two site distributions -/

theorem E_flipDist (q : K) (g : Bool → K) : E (flipDist q) g = Eflip q (g true) (g false) := by
  simp only [flipDist, E_cons, E_nil, Eflip, add_zero]

theorem mass_flipDist (q : K) : mass (flipDist q) = 1 := by
  rw [mass, E_flipDist, Eflip, mul_one, mul_one, add_sub_cancel]

theorem meanD_flipDist (q : K) (f : Bool → FinDist K (Dual K)) (xT xF : Dual K)
    (hT : meanD (f true) = xT) (hF : meanD (f false) = xF) :
    meanD (FinDist.bind (flipDist q) f) = ⟨Eflip q xT.v xF.v, Eflip q xT.d xF.d⟩ := by
  rw [meanD_bind, E_flipDist, E_flipDist, hT, hF]

theorem E_catDist (ps : List (Dual K)) (g : Nat → K) :
    E (catDist ps) g = sumK ((List.range ps.length).map fun i => (ps.getD i ⟨0, 0⟩).v * g i) := by
  simp only [E, catDist, List.map_map, Function.comp_def, sumK_eq_smc]

theorem supp_catDist (ps : List (Dual K)) : supp (catDist ps) = List.range ps.length := by
  simp only [supp, catDist, List.map_map, Function.comp_def, List.map_id']

theorem mass_catDist (ps : List (Dual K)) : mass (catDist ps) = (sumD ps).v := by
  refine (E_catDist ps _).trans ((enumAll_range_v ps fun _ => ⟨1, 0⟩).symm.trans ?_)
  rw [List.map_const', List.length_range, enumAll_replicate]
  exact mul_one _

theorem meanD_catDist (ps : List (Dual K)) (f : Nat → FinDist K (Dual K)) (x : Nat → Dual K)
    (hx : ∀ i ∈ List.range ps.length, meanD (f i) = x i) :
    meanD (FinDist.bind (catDist ps) f)
      = ⟨sumK ((List.range ps.length).map fun i => (ps.getD i ⟨0, 0⟩).v * (x i).v),
         sumK ((List.range ps.length).map fun i => (ps.getD i ⟨0, 0⟩).v * (x i).d)⟩ := by
  rw [← supp_catDist] at hx
  rw [meanD_bind, E_congr_supp _ _ _ fun i hi => congrArg Dual.v (hx i hi),
    E_congr_supp _ _ _ fun i hi => congrArg Dual.d (hx i hi), E_catDist, E_catDist]

/-! ### every primitive commutes with the mean of its (normalised) continuation estimates -/

theorem meanD_reinforce (pb : Dual K) (d : FinDist K (Dual K)) :
    meanD (FinDist.bind d fun k => FinDist.pure (reinforce pb k)) = reinforce pb (meanD d) := by
  refine Dual.ext ?_ ?_
  · simp only [meanD, E_bind, E_pure, reinforce]
  · simp only [meanD, E_bind, E_pure, reinforce, E_add, E_mul_right]

theorem E_reinforce_v (pb : Dual K) (d : FinDist K (Dual K)) :
    E d (fun k => (reinforce pb k).v) = (reinforce pb (meanD d)).v := rfl

/-- flip_mvd on the drawn outcome `true`: `d` estimates the continuation of `true` (mean `x`), `r` is
    the forward run of the complementary branch (mean `o.v`) -/
theorem meanD_mvd_true (p : Dual K) (d : FinDist K (Dual K)) (r : FinDist K K) (x o : Dual K)
    (hd : mass d = 1) (hr : mass r = 1) (hx : meanD d = x) (ho : E r (fun o => o) = o.v) :
    meanD (FinDist.bind d fun kb => FinDist.bind r fun o => FinDist.pure (mvd true p kb ⟨o, 0⟩))
      = mvd true p x o := by
  subst hx
  rw [mvd_true, ← ho]
  refine Dual.ext ?_ ?_
  · simp only [meanD, E_bind, E_pure, mvd_true, E_const, hr, one_mul]
  · simp only [meanD, E_bind, E_pure, mvd_true, E_add, E_mul_right, E_neg, E_sub, E_const, hd, hr,
      one_mul]

theorem meanD_mvd_false (p : Dual K) (d : FinDist K (Dual K)) (r : FinDist K K) (x o : Dual K)
    (hd : mass d = 1) (hr : mass r = 1) (hx : meanD d = x) (ho : E r (fun o => o) = o.v) :
    meanD (FinDist.bind d fun kb => FinDist.bind r fun o => FinDist.pure (mvd false p ⟨o, 0⟩ kb))
      = mvd false p o x := by
  subst hx
  rw [mvd_false, ← ho]
  refine Dual.ext ?_ ?_
  · simp only [meanD, E_bind, E_pure, mvd_false, E_const, hr, one_mul]
  · simp only [meanD, E_bind, E_pure, mvd_false, E_add, E_mul_right, E_sub, E_const, hd, hr, one_mul]

theorem meanD_enumAll (ps : List (Dual K)) (ds : List (FinDist K (Dual K)))
    (hm : ∀ d ∈ ds, mass d = 1) :
    meanD (FinDist.bind (FinDist.sequence ds) fun ks => FinDist.pure (enumAll ps ks))
      = enumAll ps (ds.map meanD) := by
  refine Dual.ext ?_ ?_
  · simp only [meanD, E_bind, E_pure, enumAll_v, E_sequence_zipWith _ _ _ hm, List.zipWith_map_right,
      E_mul_left]
  · simp only [meanD, E_bind, E_pure, enumAll_d, E_sequence_zipWith _ _ _ hm, List.zipWith_map_right,
      E_add, E_mul_left]

/-- flip_enum is the two-outcome case of enumeration, written with two binds -/
theorem meanD_flipEnum (p : Dual K) (dT dF : FinDist K (Dual K)) (mT : mass dT = 1) (mF : mass dF = 1) :
    meanD (FinDist.bind dT fun kT => FinDist.bind dF fun kF => FinDist.pure (flipEnum p kT kF))
      = flipEnum p (meanD dT) (meanD dF) := by
  have h : meanD (FinDist.bind dT fun kT => FinDist.bind dF fun kF => FinDist.pure (flipEnum p kT kF))
      = meanD (FinDist.bind (FinDist.sequence [dT, dF]) fun ks =>
          FinDist.pure (enumAll [p, Dual.sub (Dual.const 1) p] ks)) := by
    simp only [meanD, FinDist.sequence, E_bind, E_pure, flipEnumPar_eq]
  exact h.trans ((meanD_enumAll _ [dT, dF] (forall_mem_pair mT mF)).trans (flipEnumPar_eq p _ _))

/-! ### well-formedness of a program and unbiasedness -/

/-- the guards of the unbiasedness theorem: every categorical site is normalised (its
    probabilities' values sum to one; for a flip this holds by construction), and every outcome
    probability of a score-function (REINFORCE) site is non-zero.  Quantified over EVERY outcome
    of every site (enumeration and MVD evaluate the continuation also on outcomes of probability
    zero). -/
def Prog.OK : Prog K → Prop
  | .ret _ => True
  | .flip e p k => (e = .reinforce → p.v ≠ 0 ∧ 1 - p.v ≠ 0) ∧ ∀ b, OK (k b)
  | .cat e ps k =>
      (sumD ps).v = 1 ∧ (e = .reinforce → ∀ q ∈ ps, q.v ≠ 0) ∧ ∀ i, i < ps.length → OK (k i)

namespace Prog

/-- `run` is the forward-sampling run (`kpure`) -/
theorem mass_run (p : Prog K) (h : p.OK) : mass (run p) = 1 := by
  induction p with
  | ret r => exact mass_pure _
  | flip e p k ih => exact mass_bind_one _ _ (mass_flipDist _) fun b _ => ih b (h.2 b)
  | cat e ps k ih =>
    refine mass_bind_one _ _ ((mass_catDist ps).trans h.1) fun i hi => ?_
    rw [supp_catDist] at hi
    exact ih i (h.2.2 i (List.mem_range.mp hi))

theorem E_run (p : Prog K) : E (run p) (fun o => o) = (exact p).v := by
  induction p with
  | ret r => exact E_pure _ _
  | flip e p k ih => simp only [run, E_bind, E_flipDist, ih]; rfl
  | cat e ps k ih => simp only [run, E_bind, ih, exact, E_catDist, enumAll_range_v]

/-- `est` is the interpreter's estimate (`kdual`) -/
theorem mass_est (p : Prog K) (h : p.OK) : mass (est p) = 1 := by
  induction p with
  | ret r => exact mass_pure _
  | flip e p k ih =>
    have hT := ih true (h.2 true)
    have hF := ih false (h.2 false)
    cases e with
    | enum => exact mass_bind_one _ _ hT fun _ _ => (mass_bind_pure _ _).trans hF
    | enumPar =>
      exact (mass_bind_pure _ _).trans (mass_sequence _ (forall_mem_pair hT hF))
    | reinforce =>
      exact mass_bind_one _ _ (mass_flipDist _) fun b _ => (mass_bind_pure _ _).trans (ih b (h.2 b))
    | mvd =>
      exact mass_bind_one _ _ (mass_flipDist _) fun b _ =>
        mass_bind_one _ _ (ih b (h.2 b)) fun _ _ => (mass_bind_pure _ _).trans (mass_run _ (h.2 (!b)))
  | cat e ps k ih =>
    have hk : ∀ i ∈ List.range ps.length, mass (est (k i)) = 1 :=
      fun i hi => ih i (h.2.2 i (List.mem_range.mp hi))
    cases e with
    | enumPar =>
      exact (mass_bind_pure _ _).trans (mass_sequence _ (List.forall_mem_map.mpr hk))
    | reinforce =>
      exact mass_bind_one _ _ ((mass_catDist ps).trans h.1) fun i hi =>
        (mass_bind_pure _ _).trans (hk i (supp_catDist ps ▸ hi))

/-- the expectation of the Dual the interpreter returns is the exact expectation of the program
    (value part) and its exact derivative (tangent part); later sites may depend on earlier
    outcomes in any way. -/
theorem meanD_est (p : Prog K) (h : p.OK) : meanD (est p) = exact p := by
  induction p with
  | ret r => exact meanD_pure r
  | flip e p k ih =>
    have mT := mass_est (k true) (h.2 true)
    have mF := mass_est (k false) (h.2 false)
    have iT := ih true (h.2 true)
    have iF := ih false (h.2 false)
    cases e with
    | enum => exact (meanD_flipEnum p _ _ mT mF).trans (congrArg₂ (flipEnum p) iT iF)
    | enumPar =>
      exact (meanD_enumAll _ _ (forall_mem_pair mT mF)).trans
        ((congrArg₂ (fun a b => enumAll _ [a, b]) iT iF).trans (flipEnumPar_eq p _ _))
    | reinforce =>
      obtain ⟨h1, h2⟩ := h.1 rfl
      obtain ⟨hv, hd⟩ := reinforce_flip_unbiased p (exact (k true)) (exact (k false)) h1 h2
      refine (meanD_flipDist _ _ _ _ ?_ ?_).trans (Dual.ext hv hd)
      · exact (meanD_reinforce _ _).trans (congrArg _ iT)
      · exact (meanD_reinforce _ _).trans (congrArg _ iF)
    | mvd =>
      obtain ⟨hv, hd⟩ := mvd_flip_unbiased p (exact (k true)) (exact (k false))
      refine (meanD_flipDist _ _ _ _ ?_ ?_).trans (Dual.ext hv hd)
      · exact meanD_mvd_true p _ _ _ _ mT (mass_run _ (h.2 false)) iT (E_run _)
      · exact meanD_mvd_false p _ _ _ _ mF (mass_run _ (h.2 true)) iF (E_run _)
  | cat e ps k ih =>
    have hk : ∀ i ∈ List.range ps.length, meanD (est (k i)) = exact (k i) :=
      fun i hi => ih i (h.2.2 i (List.mem_range.mp hi))
    cases e with
    | enumPar =>
      refine (meanD_enumAll _ _ ?_).trans ?_
      · exact List.forall_mem_map.mpr fun i hi => mass_est _ (h.2.2 i (List.mem_range.mp hi))
      · rw [List.map_map]
        exact congrArg (enumAll ps) (List.map_congr_left hk)
    | reinforce =>
      refine (meanD_catDist ps _ (fun i => reinforce (ps.getD i ⟨0, 0⟩) (exact (k i))) fun i hi =>
        (meanD_reinforce _ _).trans (congrArg _ (hk i hi))).trans ?_
      exact Dual.ext (enumAll_range_v ps fun i => exact (k i)).symm
        ((reinforceExpectedTangent_range ps fun i => exact (k i)).symm.trans
          (reinforce_finite_unbiased ps _ (h.2.1 rfl)))

theorem est_unbiased (p : Prog K) (h : p.OK) :
    E (est p) (fun r => r.v) = (exact p).v ∧ E (est p) (fun r => r.d) = (exact p).d :=
  ⟨congrArg Dual.v (meanD_est p h), congrArg Dual.d (meanD_est p h)⟩

end Prog

/-! ### straight-line programs -/

/-- the guards of `Prog.OK` spelled out for a straight-line program that has already recorded the
    outcomes `outs` -/
def SProg.OK : SProg K → List Outcome → Prop
  | .ret _, _ => True
  | .flip e p rest, outs =>
      (e = .reinforce → (p outs).v ≠ 0 ∧ 1 - (p outs).v ≠ 0) ∧
      ∀ b : Bool, OK rest (outs ++ [b.toNat])
  | .cat e ps rest, outs =>
      (sumD (ps outs)).v = 1 ∧ (e = .reinforce → ∀ q ∈ ps outs, q.v ≠ 0) ∧
      ∀ i, i < (ps outs).length → OK rest (outs ++ [i])

theorem SProg.OK_toProg (sp : SProg K) (outs : List Outcome) :
    (sp.toProg outs).OK ↔ sp.OK outs := by
  induction sp generalizing outs with
  | ret f => exact Iff.rfl
  | flip e p rest ih => simp only [SProg.toProg, Prog.OK, SProg.OK, ih]
  | cat e ps rest ih => simp only [SProg.toProg, Prog.OK, SProg.OK, ih]

/-! ### primitives: normalised probabilities, truncated geometric, softmax, baseline -/

/-- no spurious gradient from a constant continuation -/
theorem enumAll_const (ps : List (Dual K)) (c : Dual K) (h : sumD ps = ⟨1, 0⟩) :
    enumAll ps (List.replicate ps.length c) = c := by
  rw [enumAll_replicate, h]
  exact Dual.ext (one_mul _) (by simp only [Dual.mul, zero_mul, one_mul, zero_add])

theorem Dual.pow_v (a : Dual K) (n : Nat) : (Dual.pow a n).v = a.v ^ n := by
  induction n with
  | zero => exact (pow_zero _).symm
  | succ n ih => rw [pow_succ, ← ih]; rfl

theorem geomProbs_ne_zero (p : Dual K) (n : Nat) (h1 : p.v ≠ 0) (h2 : 1 - p.v ≠ 0) :
    ∀ q ∈ geomProbs p n, q.v ≠ 0 := by
  intro q hq
  obtain ⟨i, -, rfl⟩ := List.mem_map.mp hq
  exact mul_ne_zero ((Dual.pow_v _ i).trans_ne (pow_ne_zero _ h2)) h1

theorem softmaxD_normalised (ex : K → K) (ls : List (Dual K))
    (hS : sumK (ls.map fun l => ex l.v) ≠ 0) : sumD (softmaxD ex ls) = ⟨1, 0⟩ := by
  rw [sumK_eq_smc] at hS
  refine Dual.ext ?_ ?_
  · simp only [sumD_v, softmaxD, List.map_map, Function.comp_def, sumK_eq_smc]
    rw [Genjax.Smc.sumK_map_div ls _ (fun l => ex l.v), div_self hS]
  · simp only [sumD_d, softmaxD, List.map_map, Function.comp_def, sumK_eq_smc]
    set S := Genjax.Smc.sumK (ls.map fun l => ex l.v)
    set m := Genjax.Smc.sumK (ls.map fun l => ex l.v / S * l.d)
    have : ∀ l : Dual K, ex l.v / S * (l.d - m) = ex l.v / S * l.d + -m * (ex l.v / S) :=
      fun l => by rw [mul_sub, sub_eq_add_neg, neg_mul, mul_comm m]
    simp only [this]
    rw [Genjax.Smc.sumK_map_add, Genjax.Smc.sumK_map_mul_left ls (-m) (fun l => ex l.v / S),
      Genjax.Smc.sumK_map_div ls S (fun l => ex l.v), div_self hS, mul_one, add_neg_cancel]

/-- REINFORCE with a constant baseline b, `k.d + (k.v − b)·p'/p`, stays unbiased when the
    probability tangents sum to zero.  NOTE: the genjax REINFORCE primitive (1034-1126) has NO
    baseline argument; this lemma is recorded only as the mathematical fact behind the usual
    variance-reduction extension and is not a statement about existing code. -/
theorem reinforce_baseline_unbiased (ps ks : List (Dual K)) (b : K) (hl : ps.length = ks.length)
    (hp : ∀ p ∈ ps, p.v ≠ 0) (h0 : (sumD ps).d = 0) :
    sumK (List.zipWith (fun p k => p.v * (k.d + (k.v - b) * (p.d / p.v))) ps ks)
      = (enumAll ps ks).d := by
  have key : ∀ (ps ks : List (Dual K)), ps.length = ks.length → (∀ p ∈ ps, p.v ≠ 0) →
      sumK (List.zipWith (fun p k => p.v * (k.d + (k.v - b) * (p.d / p.v))) ps ks)
        = (enumAll ps ks).d - b * (sumD ps).d := by
    intro ps
    induction ps with
    | nil => intro ks _ _; exact (sub_zero _).symm.trans (congrArg _ (mul_zero b).symm)
    | cons p ps ih =>
      intro ks hl hp
      cases ks with
      | nil => cases hl
      | cons k ks =>
        -- the baseline estimator is REINFORCE on the continuation shifted by the constant `b`
        have ht := reinforce_term p ⟨k.v - b, k.d⟩ (hp p List.mem_cons_self)
        show p.v * (reinforce p ⟨k.v - b, k.d⟩).d + sumK (List.zipWith _ ps ks)
          = p.d * k.v + p.v * k.d + (enumAll ps ks).d - b * (p.d + (sumD ps).d)
        rw [ht, ih ks (Nat.succ.inj hl) fun q hq => hp q (List.mem_cons_of_mem _ hq)]
        ring
  rw [key ps ks hl hp, h0, mul_zero, sub_zero]

end Genjax.Adev

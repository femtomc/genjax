import GenjaxModel.Model.Chain
/-!
  C18: `chain` returns exactly the burnt-in, thinned kernel iterates and their accept flags.
  `run_eq_map` and `arange_eq` give the whole result record in closed form (`chain_eq`), from which
  the statements about counts and slices are read off.
-/
namespace Genjax.Chain
variable {σ : Type} [Inhabited σ]

theorem getD_map_range {α : Type} (f : Nat → α) (d : α) {n i : Nat} (h : i < n) :
    ((List.range n).map f).getD i d = f i := by
  simp [List.getD_eq_getElem?_getD, h]

/-! ### the un-thinned run -/

omit [Inhabited σ] in
theorem run_length (step : Nat → σ → σ × Bool) : ∀ (n j : Nat) (s : σ), (run step n j s).length = n := by
  intro n
  induction n with
  | zero => intro j s; rfl
  | succ n ih => intro j s; exact congrArg Nat.succ (ih (j + 1) _)

omit [Inhabited σ] in
/-- continuing from the state after `j` applications, `run` lists the states after `j+1, j+2, …`
    applications, each with the flag of the application that produced it -/
theorem run_eq_map (step : Nat → σ → σ × Bool) (init : σ) : ∀ (n j : Nat),
    run step n j (iter step j init)
      = (List.range' j n).map fun m => (iter step (m + 1) init, accepted step m init) := by
  intro n
  induction n with
  | zero => intro j; rfl
  | succ n ih => intro j; exact congrArg (List.cons _) (ih (j + 1))

theorem run_getD (step : Nat → σ → σ × Bool) (n : Nat) (init : σ) (j : Nat) (hj : j < n) :
    (run step n 0 init).getD j (default, false) = (iter step (j + 1) init, accepted step j init) := by
  rw [show run step n 0 init = _ from run_eq_map step init n 0, ← List.range_eq_range',
    getD_map_range _ _ hj]

/-! ### `arange` -/

/-- ⌈n/k⌉ = ⌈(n − k)/k⌉ + 1 for n > 0, the subtraction truncated -/
theorem ceilDiv_of_pos {n k : Nat} (hk : 0 < k) (hn : 0 < n) :
    (n + k - 1) / k = (n - k + k - 1) / k + 1 := by
  rw [Nat.sub_add_comm hn, Nat.add_div_right _ hk]
  rcases Nat.lt_or_ge n k with h | h
  · rw [Nat.sub_eq_zero_of_le (Nat.le_of_lt h), Nat.zero_add,
      Nat.div_eq_of_lt (Nat.sub_lt hk Nat.one_pos),
      Nat.div_eq_of_lt (Nat.lt_of_le_of_lt (Nat.sub_le n 1) h)]
  · rw [Nat.sub_add_cancel h]

theorem arangeFuel_eq (stop k : Nat) (hk : 0 < k) : ∀ (fuel i : Nat), stop - i ≤ fuel →
    arangeFuel stop k fuel i = List.range' i ((stop - i + k - 1) / k) k := by
  intro fuel
  induction fuel with
  | zero =>
    intro i h
    rw [Nat.le_zero.mp h, Nat.zero_add, Nat.div_eq_of_lt (Nat.sub_lt hk Nat.one_pos)]
    rfl
  | succ fuel ih =>
    intro i h
    rw [arangeFuel]
    split
    · next hlt =>
      rw [ih (i + k) (by omega), Nat.sub_add_eq, ceilDiv_of_pos hk (Nat.sub_pos_of_lt hlt),
        List.range'_succ]
    · next hge =>
      rw [Nat.sub_eq_zero_of_le (Nat.le_of_not_lt hge), Nat.zero_add,
        Nat.div_eq_of_lt (Nat.sub_lt hk Nat.one_pos)]
      rfl

theorem arange_eq (b n k : Nat) (hk : 0 < k) :
    arange b n k = (List.range ((n - b + k - 1) / k)).map fun i => b + i * k := by
  rw [arange, arangeFuel_eq n k hk n b (Nat.sub_le n b)]
  apply List.ext_getElem
  · simp
  · intro i h1 h2
    simp [Nat.mul_comm]

theorem arange_length (b n k : Nat) (hk : 0 < k) : (arange b n k).length = (n - b + k - 1) / k := by
  rw [arange_eq b n k hk, List.length_map, List.length_range]

theorem arange_lt {b n k i : Nat} (hk : 0 < k) (h : i < (n - b + k - 1) / k) : b + i * k < n := by
  have := (Nat.le_div_iff_mul_le hk).mp h
  rw [Nat.succ_mul] at this
  omega

/-! ### the result of `chain` -/

/-- the whole result in closed form, `m = ⌈(n − b)/k⌉`: the states after steps number b, b+k, …, the
    flags of those very steps, their number, and how many of them were accepted -/
theorem chain_eq (step : Nat → σ → σ × Bool) (init : σ) (n b k : Nat) (hk : 0 < k) :
    chain step init n b k =
      { states := (List.range ((n - b + k - 1) / k)).map fun i => iter step (b + i * k + 1) init
        accepts := (List.range ((n - b + k - 1) / k)).map fun i => accepted step (b + i * k) init
        nSteps := (n - b + k - 1) / k
        acceptCount :=
          ((List.range ((n - b + k - 1) / k)).filter fun i => accepted step (b + i * k) init).length } := by
  have sel : (arange b n k).map (fun i => (run step n 0 init).getD i (default, false))
      = (List.range ((n - b + k - 1) / k)).map fun i =>
          (iter step (b + i * k + 1) init, accepted step (b + i * k) init) := by
    rw [arange_eq b n k hk, List.map_map]
    exact List.map_congr_left fun i hi => run_getD step n init _ (arange_lt hk (List.mem_range.mp hi))
  simp only [chain, sel, arange_length b n k hk, List.map_map, List.filter_map, List.length_map]
  rfl

theorem chain_count (step : Nat → σ → σ × Bool) (init : σ) (n b k : Nat) (hk : 0 < k) :
    (chain step init n b k).nSteps = (n - b + k - 1) / k ∧
    (chain step init n b k).states.length = (n - b + k - 1) / k ∧
    (chain step init n b k).accepts.length = (n - b + k - 1) / k := by
  simp only [chain_eq step init n b k hk, List.length_map, List.length_range, and_self]

/-- the i-th retained state is the state visited after step number b + i·k (i.e. after
    b + i·k + 1 kernel applications), and the i-th accept flag belongs to that very step -/
theorem chain_slice (step : Nat → σ → σ × Bool) (init : σ) (n b k : Nat) (hk : 0 < k)
    (i : Nat) (hi : i < (chain step init n b k).nSteps) :
    (chain step init n b k).states.getD i default = iter step (b + i * k + 1) init ∧
    (chain step init n b k).accepts.getD i false = accepted step (b + i * k) init := by
  rw [chain_eq step init n b k hk] at hi ⊢
  exact ⟨getD_map_range _ _ hi, getD_map_range _ _ hi⟩

end Genjax.Chain

import GenjaxModel.Model.SeedVec
import GenjaxModel.Proofs.Seed
import Mathlib.Data.List.Nodup
import Mathlib.Data.List.Forall2
/-!
  C07, vectorised sites: a site under `modular_vmap`s is one Seed site (one key, one sampler call
  with the sizes of the unbatched levels prepended to `sample_shape`); keys stay pairwise distinct
  in any program; lanes read pairwise different entries of the joint draw.
-/
namespace Genjax.Seed

/-! ### the rebound sampler's shapes -/

/-- sizes of the unbatched / batched levels, outermost first -/
def unbSizes (levels : List Level) : List Nat := (levels.filter fun lv => !lv.2).map (·.1)
def batSizes (levels : List Level) : List Nat := (levels.filter fun lv => lv.2).map (·.1)

@[simp] theorem unbSizes_nil : unbSizes [] = [] := rfl
@[simp] theorem batSizes_nil : batSizes [] = [] := rfl
@[simp] theorem unbSizes_cons_false (n : Nat) (r : List Level) :
    unbSizes ((n, false) :: r) = n :: unbSizes r := rfl
@[simp] theorem unbSizes_cons_true (n : Nat) (r : List Level) :
    unbSizes ((n, true) :: r) = unbSizes r := rfl
@[simp] theorem batSizes_cons_false (n : Nat) (r : List Level) :
    batSizes ((n, false) :: r) = batSizes r := rfl
@[simp] theorem batSizes_cons_true (n : Nat) (r : List Level) :
    batSizes ((n, true) :: r) = n :: batSizes r := rfl

theorem rebindAll_eq (levels : List Level) (own : List Nat) :
    rebindAll levels own = { ss := unbSizes levels ++ own, pb := batSizes levels } := by
  induction levels with
  | nil => rfl
  | cons lv rest ih =>
    rw [show rebindAll (lv :: rest) own = rebind lv (rebindAll rest own) from rfl, ih]
    obtain ⟨n, _ | _⟩ := lv <;> simp [rebind]

theorem rebindAll_ret (levels : List Level) (own : List Nat) :
    (rebindAll levels own).ret = unbSizes levels ++ own ++ batSizes levels := by
  rw [rebindAll_eq]; rfl

theorem VShape_ret_prefix (levels : List Level) (own : List Nat) :
    (rebindAll levels own).ret = (rebindAll levels own).ss ++ batSizes levels := by
  rw [rebindAll_eq]; rfl

theorem sizes_unbatched (lanes : List Nat) :
    unbSizes (lanes.map fun n => (n, false)) = lanes ∧ batSizes (lanes.map fun n => (n, false)) = [] := by
  induction lanes <;> simp [*]

/-- a nest of unbatched vmaps (`in_axes=()`, `repeat`): `sample_shape = lanes ++ own` -/
theorem rebindAll_unbatched (lanes own : List Nat) :
    rebindAll (lanes.map fun n => (n, false)) own = { ss := lanes ++ own, pb := [] } := by
  rw [rebindAll_eq, (sizes_unbatched lanes).1, (sizes_unbatched lanes).2]

/-- one level: the returned shape and the declared axis are those of `Vmap.ruleOut` -/
theorem rebind_one_ruleOut (n : Nat) (b : Bool) (own : List Nat) (cfg : Vmap.Cfg) :
    (rebindAll [(n, b)] own).ret = (Vmap.ruleOut cfg ⟨own, b⟩ n).1 ∧
    declaredAxis (n, b) { ss := own, pb := [] } = (Vmap.ruleOut ⟨true⟩ ⟨own, b⟩ n).2 ∧
    declaredAxis (n, b) { ss := own, pb := [] } = Vmap.laneAxis ⟨own, b⟩ := by
  cases b <;> simp [rebindAll, rebind, VShape.ret, Vmap.ruleOut, declaredAxis, Vmap.laneAxis]

theorem moveFront_concat (s : List Nat) (n : Nat) : Vmap.moveFront (s ++ [n]) s.length = n :: s := by
  simp [Vmap.moveFront, List.getD_eq_getElem?_getD, List.eraseIdx_append_of_length_le]

/-- after `jax.vmap` has moved the declared axis to the front every lane holds an array of the
    site's own sample_shape -/
theorem rebind_one_moveFront (n : Nat) (b : Bool) (own : List Nat) :
    Vmap.moveFront (rebindAll [(n, b)] own).ret (declaredAxis (n, b) { ss := own, pb := [] })
      = n :: own := by
  cases b
  · simp [rebindAll, rebind, VShape.ret, declaredAxis, Vmap.moveFront]
  · exact moveFront_concat own n

/-! ### a vectorised site is a site -/

/-- a sampler call as an entry of `siteKeys` -/
def Call.entry (c : Call) : Nat × List Nat × KP := (c.id, c.iters, c.key)

mutual
  theorem VStmt.calls_erase : ∀ (s : VStmt) (k : KP) (it : List Nat),
      (s.calls k it).1.map Call.entry = (s.erase.keys k it).1 ∧ (s.calls k it).2 = (s.erase.keys k it).2
    | .vsite _ _ _, _, _ => ⟨rfl, rfl⟩
    | .cond taken, k, it => ⟨(VProg.calls_erase taken (.R k) it).1, rfl⟩
    | .scan body n, k, it =>
      ⟨by simp only [VStmt.calls, VStmt.erase, Stmt.keys, List.map_flatMap,
        (VProg.calls_erase body _ _).1], rfl⟩
    | .other, _, _ => ⟨rfl, rfl⟩
  theorem VProg.calls_erase : ∀ (p : VProg) (k : KP) (it : List Nat),
      (p.calls k it).1.map Call.entry = (p.erase.keys k it).1 ∧ (p.calls k it).2 = (p.erase.keys k it).2
    | .nil, _, _ => ⟨rfl, rfl⟩
    | .cons s rest, k, it => by
      simp only [VProg.calls, VProg.erase, Prog.keys, List.map_append, VStmt.calls_erase s k it,
        VProg.calls_erase rest (s.erase.keys k it).2 it, and_self]
end

/-- `p.erase`: every vectorised site is an ordinary site -/
theorem siteCalls_entries (p : VProg) : (siteCalls p).map Call.entry = siteKeys p.erase :=
  (VProg.calls_erase p .root []).1

theorem siteCalls_keys_nodup (p : VProg) : ((siteCalls p).map (·.key)).Nodup := by
  have h := siteKeys_nodup p.erase
  rwa [← siteCalls_entries, List.map_map] at h

theorem siteCalls_no_ancestor (p : VProg) (a b : Call) (ha : a ∈ siteCalls p) (hb : b ∈ siteCalls p)
    (hne : a.key ≠ b.key) : KP.under a.key b.key = false := by
  have hm : ∀ c ∈ siteCalls p, c.entry ∈ siteKeys p.erase := fun c hc =>
    siteCalls_entries p ▸ List.mem_map_of_mem hc
  exact siteKeys_no_ancestor p.erase a.entry b.entry (hm a ha) (hm b hb) hne

/-- exactly one call, with one key, whatever the lane counts -/
theorem vsite_calls (id : Nat) (levels : List Level) (own : List Nat) (k : KP) (it : List Nat) :
    (VStmt.vsite id levels own).calls k it
      = ([{ id := id, iters := it, key := .R k, sampleShape := unbSizes levels ++ own,
            retShape := unbSizes levels ++ own ++ batSizes levels }], .L k) := by
  simp only [VStmt.calls, rebindAll_ret]
  rw [rebindAll_eq]

/-! ### multi-indices -/

theorem mem_indices {s ix : List Nat} : ix ∈ indices s ↔ List.Forall₂ (· < ·) ix s := by
  induction s generalizing ix with
  | nil => simp [indices]
  | cons n s ih =>
    simp only [indices, List.mem_flatMap, List.mem_range, List.mem_map]
    constructor
    · rintro ⟨i, hi, t, ht, rfl⟩
      exact List.Forall₂.cons hi (ih.mp ht)
    · rintro (_ | ⟨hi, ht⟩)
      exact ⟨_, hi, _, ih.mpr ht, rfl⟩

theorem nodup_flatMap_tagged {α β γ : Type} {l : List α} {g : α → List β} {f : α → β → γ}
    (hl : l.Pairwise fun a b => ∀ x y, f a x ≠ f b y) (hg : ∀ a ∈ l, (g a).Nodup)
    (hf : ∀ a, Function.Injective (f a)) : (l.flatMap fun a => (g a).map (f a)).Nodup :=
  List.nodup_flatMap.2 ⟨fun a ha => (hg a ha).map (hf a), hl.imp fun hab =>
    List.disjoint_left.2 fun z hx hy => by
      obtain ⟨x, _, rfl⟩ := List.mem_map.1 hx
      obtain ⟨y, _, hy⟩ := List.mem_map.1 hy
      exact hab x y hy.symm⟩

theorem indices_nodup : ∀ s : List Nat, (indices s).Nodup
  | [] => List.nodup_singleton _
  | _ :: s => nodup_flatMap_tagged (List.nodup_range.imp fun hij _ _ h => hij (List.cons.inj h).1)
      (fun _ _ => indices_nodup s) fun _ _ _ h => (List.cons.inj h).2

/-- a scalar draw is (key of the sampler call, position in the returned array) -/
theorem allDraws_nodup (p : VProg) : (allDraws p).Nodup :=
  nodup_flatMap_tagged (f := fun (c : Call) ix => (c.key, ix))
    ((List.pairwise_map.1 (siteCalls_keys_nodup p)).imp fun hab _ _ h => hab (Prod.mk.inj h).1)
    (fun _ _ => indices_nodup _) fun _ _ _ h => (Prod.mk.inj h).2

/-! ### lanes read different entries -/

def ValidLane (levels : List Level) (ls : List Nat) : Prop :=
  List.Forall₂ (fun i (lv : Level) => i < lv.1) ls levels

theorem lanePos_nil (o : List Nat) : lanePos [] [] o = o := List.append_nil o

/-- an unbatched level puts its lane index in front of the position … -/
theorem lanePos_unbatched (n i : Nat) (lv : List Level) (ls o : List Nat) :
    lanePos ((n, false) :: lv) (i :: ls) o = i :: lanePos lv ls o := rfl

theorem append_concat_append {α : Type} (a b c : List α) (x : α) :
    a ++ (b ++ [x]) ++ c = a ++ b ++ x :: c := by
  simp only [List.append_assoc, List.singleton_append]

/-- … a batched one behind the site's own position -/
theorem lanePos_batched (n i : Nat) (lv : List Level) (ls o : List Nat) :
    lanePos ((n, true) :: lv) (i :: ls) o = lanePos lv ls (o ++ [i]) :=
  (append_concat_append ..).symm

theorem lanePos_mem (levels : List Level) (own ls o : List Nat) (hl : ValidLane levels ls)
    (ho : o ∈ indices own) : lanePos levels ls o ∈ indices (rebindAll levels own).ret := by
  rw [rebindAll_ret]
  rw [mem_indices] at ho ⊢
  induction hl generalizing o own with
  | nil => rwa [lanePos_nil, show unbSizes [] ++ own ++ batSizes [] = own from List.append_nil own]
  | @cons i lv ls lvs hi _ ih =>
    obtain ⟨n, _ | _⟩ := lv
    · exact List.Forall₂.cons hi (ih own o ho)
    · rw [lanePos_batched]
      exact append_concat_append .. ▸ ih (own ++ [n]) (o ++ [i]) (List.rel_append ho (.cons hi .nil))

/-- different (lane, own position) pairs read different entries of the joint draw -/
theorem lanePos_inj (levels : List Level) (ls ls' o o' : List Nat)
    (h : ls.length = levels.length) (h' : ls'.length = levels.length) (ho : o.length = o'.length)
    (e : lanePos levels ls o = lanePos levels ls' o') : ls = ls' ∧ o = o' := by
  induction levels generalizing ls ls' o o' with
  | nil =>
    obtain rfl := List.length_eq_zero_iff.1 h
    obtain rfl := List.length_eq_zero_iff.1 h'
    exact ⟨rfl, by rwa [lanePos_nil, lanePos_nil] at e⟩
  | cons lv rest ih =>
    obtain ⟨i, ls, rfl⟩ := List.exists_cons_of_length_eq_add_one h
    obtain ⟨i', ls', rfl⟩ := List.exists_cons_of_length_eq_add_one h'
    obtain ⟨n, _ | _⟩ := lv
    · rw [lanePos_unbatched, lanePos_unbatched, List.cons.injEq] at e
      obtain ⟨rfl, rfl⟩ := ih ls ls' o o' (Nat.succ.inj h) (Nat.succ.inj h') ho e.2
      rw [e.1]; exact ⟨rfl, rfl⟩
    · rw [lanePos_batched, lanePos_batched] at e
      obtain ⟨rfl, eo⟩ := ih ls ls' _ _ (Nat.succ.inj h) (Nat.succ.inj h') (by simp [ho]) e
      obtain ⟨rfl, ei⟩ := List.append_inj' eo rfl
      rw [(List.cons.inj ei).1]; exact ⟨rfl, rfl⟩

end Genjax.Seed

import GenjaxModel.Model.Sel
/-!
Lemmas for C16. `Sel.selected` is a homomorphism of Boolean algebras because `Sel.matchAddr` maps
union / intersection / complement to the same operation on the remainders (by definition), hence
so does `Sel.rem` along a path, and `Sel.leaf` decides them pointwise. The filters are handled
through their equations on `ChmL.cons`, by recursion over the choice map. Core Lean only.
-/
namespace Genjax

/-! ### selections -/

theorem matchAddr_union (s t : Sel) (k : String) :
    (Sel.union s t).matchAddr k =
      ((s.matchAddr k).1 || (t.matchAddr k).1, .union (s.matchAddr k).2 (t.matchAddr k).2) := rfl

theorem matchAddr_inter (s t : Sel) (k : String) :
    (Sel.inter s t).matchAddr k =
      ((s.matchAddr k).1 && (t.matchAddr k).1, .inter (s.matchAddr k).2 (t.matchAddr k).2) := rfl

theorem matchAddr_tup_cons (x : String) (q : List String) (k : String) :
    (Sel.tup (x :: q)).matchAddr k =
      if k = x then (true, if q = [] then .all else .tup q) else (false, .none) := by
  cases q <;> rfl

theorem rem_union (s t : Sel) (p : List String) :
    (Sel.union s t).rem p = .union (s.rem p) (t.rem p) := by
  induction p generalizing s t with
  | nil => rfl
  | cons k p ih => exact ih _ _

theorem rem_inter (s t : Sel) (p : List String) :
    (Sel.inter s t).rem p = .inter (s.rem p) (t.rem p) := by
  induction p generalizing s t with
  | nil => rfl
  | cons k p ih => exact ih _ _

theorem rem_compl (s : Sel) (p : List String) : (Sel.compl s).rem p = .compl (s.rem p) := by
  induction p generalizing s with
  | nil => rfl
  | cons k p ih => exact ih _

theorem rem_all (p : List String) : Sel.all.rem p = .all := by
  induction p with
  | nil => rfl
  | cons k p ih => exact ih

theorem rem_none (p : List String) : Sel.none.rem p = .none := by
  induction p with
  | nil => rfl
  | cons k p ih => exact ih

theorem selected_cons (s : Sel) (k : String) (p : List String) :
    s.selected (k :: p) = (s.matchAddr k).2.selected p := rfl

theorem selected_all (p : List String) : Sel.all.selected p = true := by
  rw [Sel.selected, rem_all]; rfl

theorem selected_none (p : List String) : Sel.none.selected p = false := by
  rw [Sel.selected, rem_none]; rfl

theorem selected_union (s t : Sel) (p : List String) :
    (Sel.union s t).selected p = (s.selected p || t.selected p) := by
  rw [Sel.selected, rem_union]; rfl

theorem selected_inter (s t : Sel) (p : List String) :
    (Sel.inter s t).selected p = (s.selected p && t.selected p) := by
  rw [Sel.selected, rem_inter]; rfl

theorem selected_compl (s : Sel) (p : List String) :
    (Sel.compl s).selected p = !s.selected p := by
  rw [Sel.selected, rem_compl]; rfl

theorem selected_str (a : String) (p : List String) :
    (Sel.str a).selected p = match p with | [] => false | k :: _ => decide (k = a) := by
  cases p with
  | nil => rfl
  | cons k p =>
    show (if k = a then (true, Sel.all) else (false, Sel.none)).2.selected p = decide (k = a)
    by_cases h : k = a
    · rw [if_pos h, selected_all, decide_eq_true h]
    · rw [if_neg h, selected_none, decide_eq_false h]

theorem selected_tup (q p : List String) :
    (Sel.tup q).selected p = (!q.isEmpty && q.isPrefixOf p) := by
  induction q generalizing p with
  | nil =>
    cases p with
    | nil => rfl
    | cons k p => exact selected_none p
  | cons x q ih =>
    cases p with
    | nil => rfl
    | cons k p =>
      show _ = (x == k && q.isPrefixOf p)
      rw [selected_cons, matchAddr_tup_cons]
      by_cases h : k = x
      · subst h
        rw [if_pos rfl, beq_self_eq_true]
        cases q with
        | nil => exact selected_all p
        | cons y r => exact ih p
      · rw [if_neg h, selected_none, beq_false_of_ne (Ne.symm h)]; rfl

theorem lookup_cons (k : String) (v : Sel) (rest : DSel) (a : String) :
    (DSel.cons k v rest).lookup a = if a = k then (true, v) else rest.lookup a := rfl

/-- a key the dict does not bind yields the empty selection -/
theorem lookup_miss (d : DSel) (k : String) (h : (d.lookup k).1 = false) : d.lookup k = (false, .none) := by
  induction d using DSel.rec (motive_1 := fun _ => True) with
  | nil => rfl
  | cons a v rest _ ih =>
    rw [lookup_cons] at h ⊢
    split at h
    · cases h
    · next hk => rw [if_neg hk]; exact ih h
  | _ => trivial

theorem lookup_miss_selected (d : DSel) (k : String) (h : (d.lookup k).1 = false) (p : List String) :
    (d.lookup k).2.selected p = false := by
  rw [lookup_miss d k h]; exact selected_none p

theorem ite_miss_selected (c : Prop) [Decidable c] (r : Sel) (p : List String)
    (h : (if c then (true, r) else (false, Sel.none)).1 = false) :
    (if c then (true, r) else (false, Sel.none)).2.selected p = false := by
  split at h
  · cases h
  · next hc => rw [if_neg hc]; exact selected_none p

/-- for complement-free selections a miss of the hit flag really means
    "nothing below is selected" -- the fact `Fn.filter` relies on. -/
theorem complFree_miss (s : Sel) (k : String) (h : s.complFree = true)
    (hm : (s.matchAddr k).1 = false) (p : List String) : (s.matchAddr k).2.selected p = false := by
  induction s using Sel.rec (motive_2 := fun _ => True) generalizing k p with
  | all => cases hm
  | none => exact selected_none p
  | str a => exact ite_miss_selected (k = a) .all p hm
  | tup q =>
    cases q with
    | nil => exact selected_none p
    | cons x q =>
      rw [matchAddr_tup_cons] at hm ⊢
      exact ite_miss_selected (k = x) _ p hm
  | dict d => exact lookup_miss_selected d k hm p
  | compl s => cases h
  | inter s t ihs iht =>
    have h : s.complFree = true ∧ t.complFree = true := Bool.and_eq_true_iff.mp h
    rw [matchAddr_inter, selected_inter]
    rcases Bool.and_eq_false_iff.mp hm with hm | hm
    · rw [ihs k h.1 hm p, Bool.false_and]
    · rw [iht k h.2 hm p, Bool.and_false]
  | union s t ihs iht =>
    have h : s.complFree = true ∧ t.complFree = true := Bool.and_eq_true_iff.mp h
    have hm : (s.matchAddr k).1 = false ∧ (t.matchAddr k).1 = false := Bool.or_eq_false_iff.mp hm
    rw [matchAddr_union, selected_union, ihs k h.1 hm.1 p, iht k h.2 hm.2 p]
    rfl
  | nil | cons => trivial

/-! ### choice maps and the two filters -/

def pfx (k : String) (e : List String × Int) : List String × Int := (k :: e.1, e.2)

theorem ChmL.leaves_cons (k : String) (v : Chm) (rest : ChmL) :
    (ChmL.cons k v rest).leaves = v.leaves.map (pfx k) ++ rest.leaves := rfl

theorem leaves_optcons (k : String) (ks rs : ChmL) :
    (ChmL.optCons k ks rs).leaves = ks.leaves.map (pfx k) ++ rs.leaves := by
  cases ks <;> rfl

theorem filterSpec_cons_leaf (k : String) (x : Int) (rest : ChmL) (s : Sel) :
    (ChmL.cons k (.leaf x) rest).filterSpec s =
      if (s.matchAddr k).2.leaf then (.cons k (.leaf x) (rest.filterSpec s).1, (rest.filterSpec s).2)
      else ((rest.filterSpec s).1, .cons k (.leaf x) (rest.filterSpec s).2) := rfl

theorem filterSpec_cons_node (k : String) (kids rest : ChmL) (s : Sel) :
    (ChmL.cons k (.node kids) rest).filterSpec s =
      (ChmL.optCons k (kids.filterSpec (s.matchAddr k).2).1 (rest.filterSpec s).1,
       ChmL.optCons k (kids.filterSpec (s.matchAddr k).2).2 (rest.filterSpec s).2) := rfl

theorem filterSpec_leaves : ∀ (x : ChmL) (s : Sel),
    (x.filterSpec s).1.leaves = x.leaves.filter (fun e => s.selected e.1) ∧
    (x.filterSpec s).2.leaves = x.leaves.filter (fun e => !s.selected e.1)
  | .nil, _ => ⟨rfl, rfl⟩
  | .cons k (.leaf v) rest, s => by
    have ih := filterSpec_leaves rest s
    have hl : s.selected [k] = (s.matchAddr k).2.leaf := rfl
    rw [filterSpec_cons_leaf, show (ChmL.cons k (.leaf v) rest).leaves = ([k], v) :: rest.leaves from rfl,
      List.filter_cons, List.filter_cons, hl]
    cases (s.matchAddr k).2.leaf
    · exact ⟨ih.1, congrArg _ ih.2⟩
    · exact ⟨congrArg _ ih.1, ih.2⟩
  | .cons k (.node kids) rest, s => by
    have ih1 := filterSpec_leaves kids (s.matchAddr k).2
    have ih2 := filterSpec_leaves rest s
    rw [filterSpec_cons_node, leaves_optcons, leaves_optcons, ih1.1, ih1.2, ih2.1, ih2.2,
      ChmL.leaves_cons, List.filter_append, List.filter_append, List.filter_map, List.filter_map]
    exact ⟨rfl, rfl⟩

theorem all_leaves_cons (k : String) (v : Chm) (rest : ChmL) (s : Sel) :
    ((ChmL.cons k v rest).leaves.all fun e => !s.selected e.1) =
      ((v.leaves.all fun e => !(s.matchAddr k).2.selected e.1) &&
       (rest.leaves.all fun e => !s.selected e.1)) := by
  rw [ChmL.leaves_cons, List.all_append, List.all_map]; rfl

theorem filterSpec_none : ∀ (x : ChmL) (s : Sel), x.noEmpty = true →
    x.leaves.all (fun e => !s.selected e.1) = true → x.filterSpec s = (.nil, x)
  | .nil, _, _, _ => rfl
  | .cons k (.leaf v) rest, s, hne, h => by
    rw [all_leaves_cons, Bool.and_eq_true] at h
    have hl : (!(s.matchAddr k).2.leaf && true) = true := h.1
    rw [Bool.and_true, Bool.not_eq_true'] at hl
    rw [filterSpec_cons_leaf, hl, filterSpec_none rest s (Bool.and_eq_true_iff.mp hne).2 h.2]
    rfl
  | .cons _ (.node .nil) _, _, hne, _ => nomatch hne
  | .cons k (.node (.cons a v kids)) rest, s, hne, h => by
    rw [all_leaves_cons, Bool.and_eq_true] at h
    have hne : (ChmL.cons a v kids).noEmpty = true ∧ rest.noEmpty = true := Bool.and_eq_true_iff.mp hne
    rw [filterSpec_cons_node, filterSpec_none _ _ hne.1 h.1, filterSpec_none rest s hne.2 h.2]
    rfl

theorem filterAsis_cons_leaf (k : String) (x : Int) (rest : ChmL) (s : Sel) :
    (ChmL.cons k (.leaf x) rest).filterAsis s =
      if (s.matchAddr k).1 then (.cons k (.leaf x) (rest.filterAsis s).1, (rest.filterAsis s).2)
      else ((rest.filterAsis s).1, .cons k (.leaf x) (rest.filterAsis s).2) := rfl

theorem filterAsis_cons_node (k : String) (kids rest : ChmL) (s : Sel) :
    (ChmL.cons k (.node kids) rest).filterAsis s =
      if (s.matchAddr k).1 then
        (ChmL.optCons k (kids.filterAsis (s.matchAddr k).2).1 (rest.filterAsis s).1,
         ChmL.optCons k (kids.filterAsis (s.matchAddr k).2).2 (rest.filterAsis s).2)
      else ((rest.filterAsis s).1, .cons k (.node kids) (rest.filterAsis s).2) := rfl

theorem flagSound_cons_leaf (k : String) (x : Int) (rest : ChmL) (s : Sel) :
    (ChmL.cons k (.leaf x) rest).flagSound s =
      (rest.flagSound s && (s.matchAddr k).1 == (s.matchAddr k).2.leaf) := rfl

theorem flagSound_cons_node (k : String) (kids rest : ChmL) (s : Sel) :
    (ChmL.cons k (.node kids) rest).flagSound s =
      (rest.flagSound s &&
        if (s.matchAddr k).1 then kids.flagSound (s.matchAddr k).2
        else kids.leaves.all fun e => !(s.matchAddr k).2.selected e.1) := rfl

/-- under `flagSound` (and no empty sub-dicts) the code's filter = the specification filter: at a
    leaf the flag is the leaf decision; at a sub-dict a hit recurses like the specification and a
    miss keeps the sub-dict whole, which is what the specification does when nothing in it is
    selected -/
theorem filterAsis_eq_filterSpec : ∀ (x : ChmL) (s : Sel), x.noEmpty = true →
    x.flagSound s = true → x.filterAsis s = x.filterSpec s
  | .nil, _, _, _ => rfl
  | .cons k (.leaf v) rest, s, hne, h => by
    rw [flagSound_cons_leaf, Bool.and_eq_true, beq_iff_eq] at h
    rw [filterAsis_cons_leaf, filterSpec_cons_leaf, h.2,
      filterAsis_eq_filterSpec rest s (Bool.and_eq_true_iff.mp hne).2 h.1]
  | .cons _ (.node .nil) _, _, hne, _ => nomatch hne
  | .cons k (.node (.cons a v kids)) rest, s, hne, h => by
    rw [flagSound_cons_node, Bool.and_eq_true] at h
    have hne : (ChmL.cons a v kids).noEmpty = true ∧ rest.noEmpty = true := Bool.and_eq_true_iff.mp hne
    rw [filterAsis_cons_node, filterSpec_cons_node, filterAsis_eq_filterSpec rest s hne.2 h.1]
    cases hc : (s.matchAddr k).1
    · rw [hc] at h
      rw [filterSpec_none _ _ hne.1 h.2]
      rfl
    · rw [hc] at h
      rw [if_pos rfl, filterAsis_eq_filterSpec _ _ hne.1 h.2]

theorem filter_all_false {α} (l : List α) (f : α → Bool) (h : l.all (fun e => !f e) = true) :
    l.filter (fun e => f e != false) = [] ∧ l.filter (fun e => f e != true) = l := by
  have h' : ∀ a ∈ l, f a = false := fun a ha => (Bool.not_eq_true' _).mp (List.all_eq_true.mp h a ha)
  constructor
  · rw [List.filter_eq_nil_iff]; intro a ha; rw [h' a ha]; exact Bool.false_ne_true
  · rw [List.filter_eq_self]; intro a ha; rw [h' a ha]; rfl

end Genjax

import GenjaxModel.Proofs.GfiValuesDraws
/-!
  Value-level theorems for `generate` (C02): constrained addresses hold the constrained values, every
  other address holds a fresh draw.
-/
namespace Genjax

section Sites
variable {R : Type} [Zero R] [Add R] [Neg R] (P : Prims R) (cfg : Cfg)

/-! ## what the Generate handler does at each call site -/

theorem Body.generate_sites (x : CML) (b : Body) : ∀ (env : List Val) (subs : TrL R) (s w : R)
    (subsF : TrL R) (r : Val) (sF wF : R),
    b.generate P cfg x env subs s w = some (subsF, r, sF, wF) →
    SitesInv (fun a g args t ds => ds = none ∧ ∃ w1, g.generate P cfg (x.find? a) args = some (t, w1))
      b env subs .nil subsF .nil := by
  induction b using Body.list_induction with
  | ret e =>
    intro env subs s w subsF r sF wF h
    cases h
    exact .ret ..
  | call addr g0 es0 rest ih =>
    intro env subs s w subsF r sF wF h
    obtain ⟨hn, t1, w1, h1, h2⟩ := generate_call_inv P cfg h
    exact .call hn (ih _ _ _ _ _ _ _ _ h2) ⟨rfl, w1, h1⟩

end Sites

/-! ## the values of the generated trace -/

section Values
variable {R : Type} [AddCommGroup R] (P : Prims R) (cfg : Cfg)

/-- what `generate` establishes about a value `v` the new trace shows at a path: the constraint's
    value `xv` there if it has one, the sampler's draw for the site `sv` otherwise -/
def GenVal (xv : Option Val) (sv : Option (Nat × List Val)) (v : Val) : Prop :=
  (∀ vx, xv = some vx → v = vx) ∧ (xv = none → ∃ d ps, sv = some (d, ps) ∧ v = P.draw d ps)

theorem generate_valAt : ∀ (g : GF) (x : CM) (args : List Val) (t : Tr R) (w : R),
    g.generate P cfg (some x) args = some (t, w) →
    ∀ p v, t.valAt p = some v → GenVal P (x.leafAt p) (g.siteAt args t p) v := by
  refine GF.induct_sites _ ?_ ?_ ?_ ?_ ?_
  · intro d0 x args t w h p v hv
    obtain ⟨v0, rfl, rfl, -⟩ := generate_dist_inv P cfg h
    rcases p with _ | _
    · exact ⟨fun vx hx => (Option.some.inj hv).symm.trans (Option.some.inj hx), fun hx => nomatch hx⟩
    · cases hv
  · intro body ih x args t w h p v hv
    have hcoh := generate_coh P cfg _ _ _ _ _ h
    obtain ⟨kids, subs, r, s, rfl, hb, rfl⟩ := generate_fn_inv P cfg h
    obtain ⟨a, p, rfl, g, es, hsite, t1, _, ⟨_, w1, hu⟩, hfF, hv⟩ :=
      (Body.generate_sites P cfg kids body _ _ _ _ _ _ _ _ hb).valAt hv
    rw [fn_siteAt P hcoh hsite hfF, CM.leafAt_node_key]
    cases hk : kids.find? a with
    | none =>
      rw [hk] at hu
      exact ⟨fun vx hx => (nomatch hx),
        fun _ => simulate_valAt_draw P g _ t1 (generate_none_simulate P cfg g _ _ _ hu).1 p v hv⟩
    | some ck =>
      rw [hk] at hu
      exact ih a g es hsite ck _ _ _ hu p v hv
  · intro g axes n ih x args t w h p v hv
    obtain ⟨l, ts, rfl, -, hts, rfl, -⟩ := generate_vmap_inv P cfg h
    obtain ⟨i, p, rfl, ti, hti, hv⟩ := Tr.valAt_vec hv
    obtain ⟨b, hb, rfl⟩ := getElem?_map_some hti
    obtain ⟨xi, hxi, hu⟩ := (LanesRun.of_forLanes hts).out hb
    rw [GF.siteAt_vmap_idx g axes n args _ hti, CM.leafAt_lanes_idx, hxi]
    exact ih xi _ _ _ hu p v hv
  · intro g n ih x args t w h p v hv
    obtain ⟨l, ts, cF, rfl, -, hts, rfl, -⟩ := generate_scan_inv P cfg h
    obtain ⟨i, p, rfl, ti, hti, hv⟩ := Tr.valAt_scan hv
    obtain ⟨b, hb, rfl⟩ := getElem?_map_some hti
    obtain ⟨xi, hxi, hu⟩ :=
      (LanesRun.of_forSteps (proj := (·.1)) hts fun _ _ _ _ _ => genStep_some P cfg).out hb
    rw [GF.siteAt_scan_idx g n args _ cF hti, CM.leafAt_lanes_idx, hxi]
    exact ih xi _ _ _ hu p v hv
  · intro tg fg iht ihf x args t w h p v hv
    obtain ⟨a, wa, b, wb, ha, hb, rfl, -⟩ := generate_cond_inv P cfg h
    have A := iht _ _ _ _ ha p
    have B := ihf _ _ _ _ hb p
    exact ⟨mergeLeaf_forall (fun v hv => (A v hv).1) (fun v hv => (B v hv).1) v hv,
      fun hx => draw_merge P _
        (siteAt_isSome P tg _ a (generate_canon P cfg tg _ _ _ _ ha)
          (generate_coh P cfg tg _ _ _ _ ha) p)
        (siteAt_isSome P fg _ b (generate_canon P cfg fg _ _ _ _ hb)
          (generate_coh P cfg fg _ _ _ _ hb) p)
        (fun v hv => (A v hv).2 hx) (fun v hv => (B v hv).2 hx) v hv⟩

/-- C02: every constrained address that exists in the generated trace's choice map holds the
    constrained value — every program (Cond at any depth: the constraint is handed to both
    branches), every `cfg`. -/
theorem generate_keeps_constraints (g : GF) (x : Option CM) (args : List Val) (t : Tr R) (w : R)
    (h : g.generate P cfg x args = some (t, w)) (y : CM) (hy : t.choices = some y)
    (p : Path) (v : Val) (hv : CM.leafAt? x p = some v) (v' : Val) (hv' : y.leafAt p = some v') :
    v' = v := by
  cases x with
  | none => cases hv
  | some x =>
    exact (generate_valAt P cfg g x args t w h p v' (Tr.choices_leafAt t y hy p ▸ hv')).1 v hv

/-- C02: every value of the generated trace's choice map at an address the constraint does not
    mention is the sampler's draw `P.draw d params` for the Distribution `d` at that address and the
    parameters the program computes from the trace's own values (`GF.siteAt`) — a draw from the
    conditional prior given the values it depends on. -/
theorem generate_unconstrained_are_draws (g : GF) (x : Option CM) (args : List Val) (t : Tr R)
    (w : R) (h : g.generate P cfg x args = some (t, w)) (y : CM) (hy : t.choices = some y)
    (p : Path) (hx : CM.leafAt? x p = none) (v : Val) (hv : y.leafAt p = some v) :
    ∃ d0 ps, g.siteAt args t p = some (d0, ps) ∧ v = P.draw d0 ps := by
  rw [Tr.choices_leafAt t y hy p] at hv
  cases x with
  | none => exact simulate_valAt_draw P g args t (generate_none_simulate P cfg g args t w h).1 p v hv
  | some x => exact (generate_valAt P cfg g x args t w h p v hv).2 hx

end Values

end Genjax

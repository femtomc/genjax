import GenjaxModel.Proofs.GfiValuesDraws
/-!
  Value-level theorems for `regenerate` (C04): unselected addresses keep their value, selected
  addresses hold a fresh draw, the discard holds the old values of exactly the selected addresses.
-/
namespace Genjax

theorem Sel.selectedPath_nil (s : Sel) : s.selectedPath [] = s.leaf := rfl

theorem Sel.selectedPath_key (s : Sel) (a : String) (p : Path) :
    s.selectedPath (.key a :: p) = (s.matchAddr a).2.selectedPath p := rfl

theorem Sel.selectedPath_idx (s : Sel) (i : Nat) (p : Path) :
    s.selectedPath (.idx i :: p) = s.selectedPath p := rfl

section Sites
variable {R : Type} [Zero R] [Add R] [Neg R] (P : Prims R) (cfg : Cfg)

/-! ## what the Regenerate handler does at each call site -/

theorem Body.regenerate_sites (old : TrL R) (sel : Sel) (b : Body) : ∀ (env : List Val)
    (subs : TrL R) (s w : R) (d : CML) (subsF : TrL R) (r : Val) (sF wF : R) (dF : CML),
    b.regenerate P cfg old sel env subs s w d = some (subsF, r, sF, wF, dF) →
    SitesInv (fun a g args t ds => ∃ sub w1, old.find? a = some sub ∧
        g.regenerate P cfg sub (sel.matchAddr a).2 args = some (t, w1, ds))
      b env subs d subsF dF := by
  induction b using Body.list_induction with
  | ret e =>
    intro env subs s w d subsF r sF wF dF h
    cases h
    exact .ret ..
  | call addr g0 es0 rest ih =>
    intro env subs s w d subsF r sF wF dF h
    obtain ⟨hn, sub, t1, w1, d1, hsub, h1, h2⟩ := regenerate_call_inv P cfg h
    exact .call hn (ih _ _ _ _ _ _ _ _ _ _ h2) ⟨sub, w1, hsub, h1⟩

/-! ## the values -/

/-- About one path: `can` = the old trace has canonical shape, `same` =
    no Cond switched branch, `sel` = the address is selected, `sv` = the site of the new trace
    there, `dv`, `yv`, `yv'` = what the discard, the old and the new trace show there -/
structure RegenVals (can same : Prop) (sel : Bool) (sv : Option (Nat × List Val))
    (dv yv yv' : Option Val) : Prop where
  dom : can → yv'.isSome = yv.isSome
  uns : sel = false → same → can → yv' = yv
  drw : sel = true → ∀ v, yv' = some v → ∃ d ps, sv = some (d, ps) ∧ v = P.draw d ps
  dis : cfg.condDiscardVisible = true → can → dv = if sel then yv else none

omit [Zero R] [Add R] [Neg R] in
theorem RegenVals.absent (can same : Prop) (sel : Bool) (sv : Option (Nat × List Val)) :
    RegenVals P cfg can same sel sv none none none :=
  ⟨fun _ => rfl, fun _ _ _ => rfl, fun _ _ h => (nomatch h), fun _ _ => by cases sel <;> rfl⟩

omit [Zero R] [Add R] [Neg R] in
theorem RegenVals.imp {P : Prims R} {cfg : Cfg} {can same can' same' : Prop} {sel : Bool}
    {sv : Option (Nat × List Val)} {dv yv yv' : Option Val} (ih : RegenVals P cfg can' same' sel sv dv yv yv')
    (hcan : can → can') (hsame : same → same') : RegenVals P cfg can same sel sv dv yv yv' :=
  ⟨fun hc => ih.dom (hcan hc), fun hx hs hc => ih.uns hx (hsame hs) (hcan hc), ih.drw,
    fun hd hc => ih.dis hd (hcan hc)⟩

def RegenValsOK (g : GF) : Prop :=
  ∀ (t : Tr R) (s : Sel) (args : List Val) (t' : Tr R) (w : R) (d : Option CM),
    g.regenerate P cfg t s args = some (t', w, d) →
      ∀ p, RegenVals P cfg (g.Canon t) (Tr.sameChecks t t') (s.selectedPath p) (g.siteAt args t' p)
        (CM.leafAt? d p) (t.valAt p) (t'.valAt p)

end Sites

section Values
variable {R : Type} [AddCommGroup R] (P : Prims R) (cfg : Cfg)

theorem regenVals_lanes (g : GF) (IH : RegenValsOK P cfg g) {old : TrL R} {s : Sel}
    {rs : List (Upd R)} {A : Nat → List Val}
    (hL : LanesRun (fun i ti => g.regenerate P cfg ti s (A i)) old.toList rs)
    (can same : Prop) (hcan : can → lanesCanon (fun t => g.Canon t) old)
    (hsame : same → Tr.sameChecks.TrL.sameChecksPos old (TrL.ofList (rs.map (·.1))))
    (site : Path → Option (Nat × List Val))
    (hsite : ∀ (i : Nat) ti' p, (rs.map (·.1))[i]? = some ti' →
      site (.idx i :: p) = g.siteAt (A i) ti' p) :
    ∀ p, RegenVals P cfg can same (s.selectedPath p) (site p)
      (CM.leafAt? (lanesDiscard (rs.map (·.2.2))) p)
      ((Tr.vec old).valAt p) ((Tr.vec (TrL.ofList (rs.map (·.1)))).valAt p) := by
  intro p
  rcases p with _ | ⟨k | i, p⟩
  · rw [lanesDiscard_leafAt_nil]; exact .absent ..
  · rw [lanesDiscard_leafAt_key]; exact .absent ..
  · show RegenVals P cfg can same (s.selectedPath p) _ _ (old.valAtIdx i p)
      ((TrL.ofList (rs.map (·.1))).valAtIdx i p)
    rw [TrL.valAtIdx_eq, TrL.valAtIdx_eq, TrL.toList_ofList, lanesDiscard_leafAt_idx]
    cases hti : old.toList[i]? with
    | none =>
      have hi : rs.length ≤ i := hL.1 ▸ List.getElem?_eq_none_iff.mp hti
      rw [List.getElem?_eq_none_iff.mpr (by rwa [List.length_map]),
        List.getElem?_eq_none_iff.mpr (by rwa [List.length_map])]
      exact .absent ..
    | some ti =>
      obtain ⟨b, hb, hu⟩ := hL.2 i ti hti
      have h1 : (rs.map (·.1))[i]? = some b.1 := by rw [List.getElem?_map, hb]; rfl
      have h2 : (rs.map (·.2.2))[i]? = some b.2.2 := by rw [List.getElem?_map, hb]; rfl
      rw [h1, h2, hsite i b.1 p h1]
      exact (IH ti s (A i) b.1 b.2.1 b.2.2 hu p).imp
        (fun hc => lanesCanon_get _ old (hcan hc) i ti hti) fun hs =>
          TrL.sameChecksPos_get old _ (hsame hs) i ti b.1 hti (by rw [TrL.toList_ofList]; exact h1)

theorem regenValsOK_all : ∀ g, RegenValsOK P cfg g := by
  refine GF.induct_sites _ ?_ ?_ ?_ ?_ ?_
  · intro d0 t s args t' w d h p
    obtain ⟨vOld, sOld, rfl, ⟨hl, rfl, -, rfl⟩ | ⟨hl, rfl, -, rfl⟩⟩ := regenerate_dist_inv P cfg h <;>
      rcases p with _ | _
    · rw [Sel.selectedPath_nil]
      exact ⟨fun _ => rfl, fun hf => (nomatch hl.symm.trans hf),
        fun _ v hv => ⟨d0, args, rfl, (Option.some.inj hv).symm⟩, fun _ _ => by rw [hl]; rfl⟩
    · exact .absent ..
    · rw [Sel.selectedPath_nil]
      exact ⟨fun _ => rfl, fun _ _ _ => rfl, fun hf => (nomatch hl.symm.trans hf),
        fun _ _ => by rw [hl]; rfl⟩
    · exact .absent ..
  · intro body ih t s args t' w d h p
    have hcoh := regenerate_coh P cfg _ _ _ _ _ _ _ h
    obtain ⟨old, r0, s0, subs, r, sc, d', rfl, hb, rfl, rfl⟩ := regenerate_fn_inv P cfg h
    rcases p with _ | ⟨a | _, p⟩
    · exact .absent ..
    · rw [Tr.valAt_fn_key, Tr.valAt_fn_key, Sel.selectedPath_key, CM.leafAt?_node_key]
      have hS := Body.regenerate_sites P cfg old s body _ _ _ _ _ _ _ _ _ _ hb
      cases hsite : body.site a with
      | none =>
        obtain ⟨e1, e2⟩ := hS.absent a rfl hsite
        rw [e1, e2]
        have key : (GF.fn body).Canon (Tr.fn old r0 s0) → old.find? a = none :=
          fun hc => Body.canonL_site_none body old hc a hsite
        exact ⟨fun hc => by rw [key hc], fun _ _ hc => by rw [key hc], fun _ _ h => (nomatch h),
          fun _ hc => by rw [key hc]; cases (s.matchAddr a).2.selectedPath p <;> rfl⟩
      | some ge =>
        obtain ⟨t1, d1, ⟨sub, w1, hsub, hu⟩, hfF, hdF⟩ := hS.site a ge.1 ge.2 rfl rfl hsite
        rw [hsub, hfF, hdF, fn_siteAt P hcoh hsite hfF]
        refine (ih a ge.1 ge.2 hsite sub _ _ t1 w1 d1 hu p).imp (fun hc => ?_) fun hs => ?_
        · obtain ⟨t0, ht0, hg⟩ := Body.canonL_site_some body old hc a ge.1 ge.2 hsite
          cases ht0.symm.trans hsub
          exact hg
        · rw [Tr.sameChecks.eq_2] at hs
          exact TrL.sameChecks_of_find hs hsub hfF
    · exact .absent ..
  · intro g axes n ih t s args t' w d h p
    obtain ⟨old, rs, rfl, -, hrs, rfl, -, rfl⟩ := regenerate_vmap_inv P cfg h
    exact regenVals_lanes P cfg g ih (.of_forLanes hrs) _ _ id
      (fun hs => by rwa [Tr.sameChecks.eq_3] at hs) _
      (fun i ti' p hri => GF.siteAt_vmap_idx g axes n args _ hri p) p
  · intro g n ih t s args t' w d h p
    obtain ⟨old, c0, rs, c, rfl, -, -, hrs, rfl, -, rfl⟩ := regenerate_scan_inv P cfg h
    have hL := LanesRun.of_forSteps (proj := (·.1)) hrs fun _ _ _ _ _ => regenStep_some P cfg
    rw [Tr.valAt_scan_eq_vec, Tr.valAt_scan_eq_vec]
    exact regenVals_lanes P cfg g ih hL _ _ id (fun hs => by rwa [Tr.sameChecks.eq_4] at hs) _
      (fun i ti' p hri => GF.siteAt_scan_idx g n args _ c hri p) p
  · intro tg fg iht ihf t s args t' w d h p
    obtain ⟨cOld, a, b, a', wa, da, b', wb, db, rfl, ha, hb, rfl, -, hdisc⟩ :=
      regenerate_cond_inv P cfg h
    have A := iht _ _ _ _ _ _ ha p
    have B := ihf _ _ _ _ _ _ hb p
    refine ⟨fun hc => ?_, fun hxn hs hc => ?_, fun hsel => ?_, fun hdv hc => ?_⟩
    · show (mergeLeaf _ _ _).isSome = (mergeLeaf _ _ _).isSome
      rw [mergeLeaf_isSome, mergeLeaf_isSome, A.dom hc.1, B.dom hc.2]
    · rw [Tr.sameChecks.eq_5] at hs
      obtain ⟨rfl, hsa, hsb⟩ := hs
      show mergeLeaf _ _ _ = mergeLeaf _ _ _
      rw [A.uns hxn hsa hc.1, B.uns hxn hsb hc.2]
    · exact draw_merge P _
        (siteAt_isSome P tg _ a' (regenerate_canon P cfg tg _ _ _ _ _ _ ha)
          (regenerate_coh P cfg tg _ _ _ _ _ _ ha) p)
        (siteAt_isSome P fg _ b' (regenerate_canon P cfg fg _ _ _ _ _ _ hb)
          (regenerate_coh P cfg fg _ _ _ _ _ _ hb) p)
        (A.drw hsel) (B.drw hsel)
    · have ea := A.dis hdv hc.1
      have eb := B.dis hdv hc.2
      show _ = if _ then mergeLeaf cOld (a.valAt p) (b.valAt p) else none
      -- a branch without discard discards nothing at `p`: nothing is selected there or the
      -- branch shows no value
      cases da with
      | none =>
        cases hdisc
        rw [eb]
        cases hsel : s.selectedPath p with
        | false => rfl
        | true =>
          rw [hsel] at ea
          rw [if_pos rfl, if_pos rfl, ← show none = a.valAt p from ea, mergeLeaf_none_left]
      | some x1 =>
        cases db with
        | none =>
          cases hdisc
          rw [ea]
          cases hsel : s.selectedPath p with
          | false => rfl
          | true =>
            rw [hsel] at eb
            rw [if_pos rfl, if_pos rfl, ← show none = b.valAt p from eb, mergeLeaf_none_right]
        | some x2 =>
          obtain ⟨dm, hdm, rfl⟩ := Option.map_eq_some_iff.mp ((if_pos hdv).symm.trans hdisc)
          show dm.leafAt p = _
          rw [CM.mergeCheck_leafAt _ _ _ _ hdm p, show x1.leafAt p = _ from ea,
            show x2.leafAt p = _ from eb]
          cases s.selectedPath p <;> rfl

/-- C04: every address that the selection does not select keeps its value (and stays present),
    provided no Cond switched branch; `hcan`: the old trace has the shape the operations build. -/
theorem regenerate_unselected_unchanged (g : GF) (t : Tr R) (s : Sel) (args : List Val)
    (t' : Tr R) (w : R) (d : Option CM) (h : g.regenerate P cfg t s args = some (t', w, d))
    (hcan : g.Canon t) (hs : Tr.sameChecks t t')
    (y y' : CM) (hy : t.choices = some y) (hy' : t'.choices = some y')
    (p : Path) (hp : s.selectedPath p = false) : y'.leafAt p = y.leafAt p := by
  rw [Tr.choices_leafAt t y hy p, Tr.choices_leafAt t' y' hy' p]
  exact (regenValsOK_all P cfg g t s args t' w d h p).uns hp hs hcan

theorem regenerate_leaf_domain (g : GF) (t : Tr R) (s : Sel) (args : List Val)
    (t' : Tr R) (w : R) (d : Option CM) (h : g.regenerate P cfg t s args = some (t', w, d))
    (hcan : g.Canon t) (y y' : CM) (hy : t.choices = some y) (hy' : t'.choices = some y')
    (p : Path) : (y'.leafAt p).isSome = (y.leafAt p).isSome := by
  rw [Tr.choices_leafAt t y hy p, Tr.choices_leafAt t' y' hy' p]
  exact (regenValsOK_all P cfg g t s args t' w d h p).dom hcan

/-- C04, with `cfg.condDiscardVisible`: the discard holds the old visible value
    of exactly the selected addresses, and nothing else. -/
theorem regenerate_discard_selected (hdv : cfg.condDiscardVisible = true)
    (g : GF) (t : Tr R) (s : Sel) (args : List Val)
    (t' : Tr R) (w : R) (d : Option CM) (h : g.regenerate P cfg t s args = some (t', w, d))
    (hcan : g.Canon t) (y y' : CM) (hy : t.choices = some y) (_hy' : t'.choices = some y')
    (p : Path) : CM.leafAt? d p = if s.selectedPath p then y.leafAt p else none := by
  rw [Tr.choices_leafAt t y hy p]
  exact (regenValsOK_all P cfg g t s args t' w d h p).dis hdv hcan

/-- C04: every value visible at a selected address of the regenerated trace is the sampler's draw
    `P.draw d params` for the Distribution `d` at that address and the parameters `params` that the
    program computes from the NEW trace's own values under the new arguments (`GF.siteAt`) — a fresh
    draw from the conditional prior given the new parent values.  Also across Cond branch switches. -/
theorem regenerate_selected_are_draws (g : GF) (t : Tr R) (s : Sel) (args : List Val)
    (t' : Tr R) (w : R) (d : Option CM) (h : g.regenerate P cfg t s args = some (t', w, d))
    (y' : CM) (hy' : t'.choices = some y') (p : Path) (hp : s.selectedPath p = true)
    (v : Val) (hv : y'.leafAt p = some v) :
    ∃ d0 ps, g.siteAt args t' p = some (d0, ps) ∧ v = P.draw d0 ps :=
  (regenValsOK_all P cfg g t s args t' w d h p).drw hp v (Tr.choices_leafAt t' y' hy' p ▸ hv)

end Values

end Genjax

import GenjaxModel.Proofs.GfiWeight
/-!
  Three things: the weight of `generate` is `GF.cw`, minus the scores of the constrained leaves
  (C02); the weight of `regenerate` without Cond switch, with nothing and with everything selected
  (C04); histories of update / regenerate steps, `Op` and `applyOps` (C05).

  Two clauses of C04 are false when read literally; the literal statements stand in comments below,
  next to counterexample theorems and the versions that hold.
-/
namespace Genjax
variable {R : Type} [AddCommGroup R]

mutual
  /-- minus the scores of the leaves of `t` whose address is present in the constraint map `x`
      (= the sum of the log densities of the constrained choices given their parents,
      for a coherent trace) -/
  def GF.cw : GF → Tr R → Option CM → R
    | .dist _, .leaf _ s, some _ => -s
    | .dist _, _, _ => 0
    | .fn body, .fn subs _ _, some (.node x) => body.cw subs x
    | .fn _, _, _ => 0
    | .vmap g _ _, .vec lanes, some (.lanes xs) => sumR ((lanes.toList.zip xs.toList).map fun p => g.cw p.1 (some p.2))
    | .vmap _ _ _, _, _ => 0
    | .scan g _, .scan steps _, some (.lanes xs) => sumR ((steps.toList.zip xs.toList).map fun p => g.cw p.1 (some p.2))
    | .scan _ _, _, _ => 0
    | .cond t f, .cond c a b, some x => if c then t.cw a (some x) else f.cw b (some x)
    | .cond _ _, _, _ => 0
  def Body.cw : Body → TrL R → CML → R
    | .ret _, _, _ => 0
    | .call addr g _ rest, subs, x =>
        (match subs.find? addr with
         | some t => g.cw t (x.find? addr)
         | none => 0) + rest.cw subs x
end

mutual
  /-- sum of the scores of the leaves of `t` selected by `s` (the remainder of the selection is
      threaded down the addresses exactly as `regenerate` does; lanes/steps share the selection) -/
  def GF.selScore : GF → Tr R → Sel → R
    | .dist _, .leaf _ sc, s => if s.leaf then sc else 0
    | .fn body, .fn subs _ _, s => body.selScore subs s
    | .vmap g _ _, .vec lanes, s => sumR (lanes.toList.map fun t => g.selScore t s)
    | .scan g _, .scan steps _, s => sumR (steps.toList.map fun t => g.selScore t s)
    | .cond t f, .cond c a b, s => if c then t.selScore a s else f.selScore b s
    | _, _, _ => 0
  def Body.selScore : Body → TrL R → Sel → R
    | .ret _, _, _ => 0
    | .call addr g _ rest, subs, s =>
        (match subs.find? addr with
         | some t => g.selScore t (s.matchAddr addr).2
         | none => 0) + rest.selScore subs s
end

variable (P : Prims R) (cfg : Cfg)

/-! ### `generate` -/

theorem GF.cw_none (g : GF) (t : Tr R) : g.cw t none = 0 := by
  cases g <;> cases t <;> rfl

theorem Body.generate_find {b : Body} {x : CML} {env : List Val} {subs : TrL R} {s w : R}
    {subsF : TrL R} {r : Val} {sF wF : R}
    (h : b.generate P cfg x env subs s w = some (subsF, r, sF, wF)) :
    ∀ k t, subs.find? k = some t → subsF.find? k = some t :=
  (body_generate_inv P cfg b x env subs s w subsF r sF wF h).1

theorem generate_sum {g : GF} {xs : List CM} {ts : List (Tr R × R)}
    (h : List.Forall₂ (fun x b => b.2 = g.cw b.1 (some x)) xs ts) :
    sumR (ts.map (·.2)) = sumR (((TrL.ofList (ts.map (·.1))).toList.zip xs).map fun p => g.cw p.1 (some p.2)) := by
  rw [TrL.toList_ofList]
  induction h with
  | nil => rfl
  | cons hab _ ih => simp only [List.map_cons, List.zip_cons_cons, sumR, hab, ih]

theorem generate_weight_some (g : GF) : ∀ (x : CM) (args : List Val) (t : Tr R) (w : R),
    g.generate P cfg (some x) args = some (t, w) → w = g.cw t (some x) := by
  refine GF.rec (motive_1 := fun g => ∀ (x : CM) (args : List Val) (t : Tr R) (w : R),
      g.generate P cfg (some x) args = some (t, w) → w = g.cw t (some x))
    (motive_2 := fun b => ∀ (x : CML) (env : List Val) (subs : TrL R) (s w : R)
      (subsF : TrL R) (r : Val) (sF wF : R),
      b.generate P cfg x env subs s w = some (subsF, r, sF, wF) → wF = w + b.cw subsF x)
    ?_ ?_ ?_ ?_ ?_ ?_ ?_ g
  · intro d x args t w h
    obtain ⟨v, rfl, rfl, rfl⟩ := generate_dist_inv P cfg h
    exact (neg_neg _).symm
  · intro body ihb x args t w h
    obtain ⟨kids, subs, r, s, rfl, hb, rfl⟩ := generate_fn_inv P cfg h
    exact (ihb _ _ _ _ _ _ _ _ _ hb).trans (zero_add _)
  · intro g axes n ih x args t w h
    obtain ⟨xs, ts, rfl, -, hts, rfl, rfl⟩ := generate_vmap_inv P cfg h
    exact generate_sum (forLanes_forall₂ (fun _ _ b hb => ih _ _ b.1 b.2 hb) hts)
  · intro g n ih x args t w h
    obtain ⟨xs, ts, c, rfl, -, hts, rfl, rfl⟩ := generate_scan_inv P cfg h
    exact generate_sum (forSteps_forall₂
      (fun _ _ _ b _ hb => ih _ _ b.1 b.2 (genStep_some P cfg hb).1) hts)
  · intro tg fg iht ihf x args t w h
    obtain ⟨a, wa, b, wb, ha, hb, rfl, rfl⟩ := generate_cond_inv P cfg h
    show _ = if (args.getD 0 .nil).truthy then tg.cw a (some x) else fg.cw b (some x)
    rw [iht _ _ _ _ ha, ihf _ _ _ _ hb]
  · intro e x env subs s w subsF r sF wF h
    cases h
    exact (add_zero _).symm
  · intro addr g es rest ihg ihr x env subs s w subsF r sF wF h
    obtain ⟨hn, t, wt, ht, hrest⟩ := generate_call_inv P cfg h
    have hfF : subsF.find? addr = some t :=
      Body.generate_find P cfg hrest addr t (TrL.find?_snoc_self hn)
    have e1 : wt = g.cw t (x.find? addr) := by
      cases hx : x.find? addr with
      | none =>
        rw [hx] at ht
        rw [GF.cw_none]
        exact generate_none_weight P cfg g _ _ _ ht
      | some c =>
        rw [hx] at ht
        exact ihg _ _ _ _ ht
    show _ = _ + ((match subsF.find? addr with
      | some t => g.cw t (x.find? addr)
      | none => 0) + rest.cw subsF x)
    rw [ihr _ _ _ _ _ _ _ _ _ hrest, hfF, e1]
    exact add_assoc _ _ _

/-- C02: the generate weight is the sum of the log densities of the constrained choices -/
theorem generate_weight (g : GF) (x : Option CM) (args : List Val) (t : Tr R) (w : R)
    (h : g.generate P cfg x args = some (t, w)) : w = g.cw t x := by
  cases x with
  | none => rw [GF.cw_none]; exact generate_none_weight P cfg g _ _ _ h
  | some x => exact generate_weight_some P cfg g x args t w h

/-! ### `regenerate` -/

theorem Body.regenerate_find {b : Body} {old : TrL R} {sel : Sel} {env : List Val} {subs : TrL R} {s w : R}
    {d : CML} {subsF : TrL R} {r : Val} {sF wF : R} {dF : CML}
    (h : b.regenerate P cfg old sel env subs s w d = some (subsF, r, sF, wF, dF)) :
    ∀ k t, subs.find? k = some t → subsF.find? k = some t :=
  (body_regenerate_inv P cfg b old sel env subs s w d subsF r sF wF dF h).1

theorem Sel.selected_matchAddr (s : Sel) (a : String) (p : List String) :
    (s.matchAddr a).2.selected p = s.selected (a :: p) := rfl

theorem Sel.none_selected : ∀ (p : List String), Sel.none.selected p = false
  | [] => rfl
  | _ :: p => Sel.none_selected p

theorem Sel.all_selected : ∀ (p : List String), Sel.all.selected p = true
  | [] => rfl
  | _ :: p => Sel.all_selected p

/-! ### C04, no switch -/

def RegenOK (g : GF) : Prop :=
  ∀ {args0 : List Val} {t : Tr R}, g.Coh P args0 t →
    ∀ {s : Sel} {args : List Val} {t' : Tr R} {w : R} {d : Option CM},
      g.regenerate P cfg t s args = some (t', w, d) → Tr.sameChecks t t' →
      w = (t.score + -t'.score) + -(g.selScore t s + -(g.selScore t' s))

def BodyRegenOK (b : Body) : Prop :=
  ∀ {env0 : List Val} {old : TrL R}, b.Coh P env0 old →
    ∀ {s : Sel} {env : List Val} {subs : TrL R} {sc w : R} {d : CML}
      {subsF : TrL R} {r : Val} {scF wF : R} {dF : CML},
      b.regenerate P cfg old s env subs sc w d = some (subsF, r, scF, wF, dF) →
      Tr.sameChecks.TrL.sameChecks old subsF →
      wF = w + sc + b.scoreOf old + b.selScore subsF s + -scF + -(b.selScore old s)

theorem regen_sum {g : GF} (ih : RegenOK P cfg g) {old : TrL R} {rs : List (Upd R)} {s : Sel}
    (hrun : List.Forall₂ (fun t b => ∃ a, g.regenerate P cfg t s a = some b) old.toList rs)
    (hcoh : ∀ t ∈ old.toList, ∃ a, g.Coh P a t)
    (hs : Tr.sameChecks.TrL.sameChecksPos old (TrL.ofList (rs.map (·.1)))) :
    sumR (rs.map (·.2.1)) = (old.scoreSum + -(TrL.ofList (rs.map (·.1))).scoreSum)
      + -(sumR (old.toList.map fun t => g.selScore t s)
          + -(sumR ((TrL.ofList (rs.map (·.1))).toList.map fun t => g.selScore t s))) := by
  have hs' := TrL.sameChecksPos_forall₂ hs
  rw [TrL.toList_ofList, List.forall₂_map_right_iff] at hs'
  rw [TrL.scoreSum_eq, TrL.scoreSum_ofList, TrL.toList_ofList, List.map_map, List.map_map,
    sumR_run (u := fun t => t.score + -g.selScore t s) (v := fun b => -b.1.score + g.selScore b.1 s)
      hrun fun t b ht htb ⟨a, hr⟩ => ?_,
    sumR_map_add, sumR_map_add, sumR_map_neg, sumR_map_neg]
  · simp only [Function.comp_def]
    abel
  · obtain ⟨a0, hc⟩ := hcoh t ht
    rw [ih hc hr (List.forall₂_zip hs' htb :)]
    abel

theorem regenOK_all (g : GF) : RegenOK P cfg g := by
  refine GF.rec (motive_1 := fun g => RegenOK P cfg g) (motive_2 := fun b => BodyRegenOK P cfg b)
    ?_ ?_ ?_ ?_ ?_ ?_ ?_ g
  · intro d args0 t ht s args t' w dd h hs
    obtain ⟨vOld, sOld, rfl, ⟨hl, rfl, rfl, -⟩ | ⟨hl, rfl, rfl, -⟩⟩ := regenerate_dist_inv P cfg h
    · simp only [Tr.score, GF.selScore, hl, if_true]; abel
    · simp only [Tr.score, GF.selScore, hl, Bool.false_eq_true, if_false]; abel
  · intro body ihb args0 t ht s args t' w dd h hs
    obtain ⟨old, r0, s0, subs, r, sc, d, rfl, hb, rfl, -⟩ := regenerate_fn_inv P cfg h
    obtain ⟨hcoh, -, rfl⟩ := ht
    rw [ihb hcoh hb hs]
    simp only [Tr.score, GF.selScore]
    abel
  · intro g axes n ih args0 t ht s args t' w dd h hs
    obtain ⟨old, rs, rfl, -, hrs, rfl, rfl, -⟩ := regenerate_vmap_inv P cfg h
    exact regen_sum P cfg ih (regenerate_vmap_run P cfg hrs) (lanesCoh_forall ht.2) hs
  · intro g n ih args0 t ht s args t' w dd h hs
    obtain ⟨old, c0, rs, c, rfl, -, -, hrs, rfl, rfl, -⟩ := regenerate_scan_inv P cfg h
    exact regen_sum P cfg ih (regenerate_scan_run P cfg hrs) (stepsCoh_forall ht.2) hs
  · intro tg fg iht ihf args0 t ht s args t' w dd h hs
    obtain ⟨cOld, a, b, a', wa, da, b', wb, db, rfl, ha, hb, rfl, rfl, -⟩ := regenerate_cond_inv P cfg h
    obtain ⟨-, hca, hcb⟩ := ht
    obtain ⟨rfl, hsa, hsb⟩ := hs
    rw [condWeight_eq cfg (.inr rfl), iht hca ha hsa, ihf hcb hb hsb]
    simp only [Tr.score, GF.selScore]
    cases (args.getD 0 Val.nil).truthy <;> simp only [Bool.false_eq_true, if_true, if_false] <;> abel
  · intro e env0 old _ s env subs sc w d subsF r scF wF dF h _
    cases h
    simp only [Body.scoreOf, Body.selScore]
    abel
  · intro addr g es rest ihg ihr env0 old hcoh s env subs sc w d subsF r scF wF dF h hs
    obtain ⟨-, t0, hfind, hg, hrest⟩ := hcoh
    obtain ⟨hnone, sub, t1, w1, d1, hsub, h1, h2⟩ := regenerate_call_inv P cfg h
    cases hfind.symm.trans hsub
    have hfF : subsF.find? addr = some t1 :=
      Body.regenerate_find P cfg h2 addr t1 (TrL.find?_snoc_self hnone)
    rw [ihr hrest h2 hs, ihg hg h1 (TrL.sameChecks_of_find hs hfind hfF)]
    simp only [Body.scoreOf, Body.selScore, hfind, hfF]
    abel

/-- C04 (no Cond switches, any variant of the code): the regenerate weight is the change of the
    joint score minus the change of the score of the selected choices -/
theorem regenerate_weight_noswitch
    (g : GF) (args0 : List Val) (t : Tr R) (ht : g.Coh P args0 t)
    (s : Sel) (args : List Val) (t' : Tr R) (w : R) (d : Option CM)
    (h : g.regenerate P cfg t s args = some (t', w, d)) (hs : Tr.sameChecks t t') :
    w = (t.score + -t'.score) + -(g.selScore t s + -(g.selScore t' s)) :=
  regenOK_all P cfg g ht h hs

/-! ### C04, nothing selected -/

/-- the last conjunct needs the canonical shape (`regenerate_none_counterexample`) -/
def NoneOK (g : GF) : Prop :=
  ∀ {args : List Val} {t : Tr R}, g.Coh P args t →
    ∀ {s : Sel}, (∀ p, s.selected p = false) → ∀ {t' : Tr R} {w : R} {d : Option CM},
      g.regenerate P cfg t s args = some (t', w, d) →
      w = 0 ∧ t'.score = t.score ∧ t'.retval = t.retval ∧ (g.Canon t → t' = t)

/-- While the body shrinks to the remaining call sites, `old` stays the whole list of old
    sub-traces, so the last conjunct cannot say
    `subsF = subs.append old`: it speaks of any list `tl` of canonical shape for the remaining sites
    that agrees with `old` at their addresses (for the whole body: `old` itself, when canonical). -/
def BodyNoneOK (b : Body) : Prop :=
  ∀ {env : List Val} {old : TrL R}, b.Coh P env old →
    ∀ {s : Sel}, (∀ p, s.selected p = false) →
    ∀ {subs : TrL R} {sc w : R} {d : CML} {subsF : TrL R} {r : Val} {scF wF : R} {dF : CML},
      b.regenerate P cfg old s env subs sc w d = some (subsF, r, scF, wF, dF) →
      wF = w ∧ scF = sc + b.scoreOf old ∧ r = b.retOf env old ∧
      (∀ tl : TrL R, b.CanonL tl → (∀ k ∈ b.addrs, tl.find? k = old.find? k) → subsF = subs.append tl)

theorem none_assemble {p : Tr R → Prop} : ∀ {old : TrL R} {rs : List (Upd R)},
    List.Forall₂ (fun t b => b.2.1 = 0 ∧ b.1.score = t.score ∧ b.1.retval = t.retval ∧ (p t → b.1 = t))
      old.toList rs →
    sumR (rs.map (·.2.1)) = 0 ∧ (TrL.ofList (rs.map (·.1))).scoreSum = old.scoreSum ∧
      (rs.map (·.1)).map Tr.retval = old.toList.map Tr.retval ∧
      (lanesCanon p old → TrL.ofList (rs.map (·.1)) = old)
  | .nil, _, .nil => ⟨rfl, rfl, rfl, fun _ => rfl⟩
  | .cons k t rest, _, .cons (b := b) (l₂ := bs) ⟨e1, e2, e3, e4⟩ h => by
    obtain ⟨f1, f2, f3, f4⟩ := none_assemble h
    refine ⟨?_, ?_, ?_, ?_⟩
    · simp only [List.map_cons, sumR, e1, f1, add_zero]
    · simp only [List.map_cons, TrL.ofList, TrL.scoreSum, e2, f2]
    · simp only [List.map_cons, TrL.toList, e3, f3]
    · rintro ⟨rfl, hc1, hc2⟩
      simp only [List.map_cons, TrL.ofList, e4 hc1, f4 hc2]

theorem noneOK_all (g : GF) : NoneOK P cfg g := by
  refine GF.rec (motive_1 := fun g => NoneOK P cfg g) (motive_2 := fun b => BodyNoneOK P cfg b)
    ?_ ?_ ?_ ?_ ?_ ?_ ?_ g
  · intro d args t ht s hsel t' w dd h
    obtain ⟨vOld, sOld, rfl, ⟨hl, -⟩ | ⟨-, rfl, rfl, -⟩⟩ := regenerate_dist_inv P cfg h
    · cases (hsel []).symm.trans hl
    · cases (show sOld = -(P.lp d args vOld) from ht)
      exact ⟨add_neg_cancel _, rfl, rfl, fun _ => rfl⟩
  · intro body ihb args t ht s hsel t' w dd h
    obtain ⟨old, r0, s0, subs, r, sc, d, rfl, hb, rfl, -⟩ := regenerate_fn_inv P cfg h
    obtain ⟨hcoh, rfl, rfl⟩ := ht
    obtain ⟨e1, e2, e3, e4⟩ := ihb hcoh hsel hb
    rw [zero_add] at e2
    subst e2 e3
    exact ⟨e1, rfl, rfl, fun hc => by rw [e4 old hc fun _ _ => rfl]; rfl⟩
  · intro g axes n ih args t ht s hsel t' w dd h
    obtain ⟨old, rs, rfl, -, hrs, rfl, rfl, -⟩ := regenerate_vmap_inv P cfg h
    have hl : List.Forall₂ (fun t b => b.2.1 = 0 ∧ b.1.score = t.score ∧ b.1.retval = t.retval ∧
        (g.Canon t → b.1 = t)) old.toList rs :=
      forLanes_induction
        (motive := fun i l (bs : List (Upd R)) => lanesCoh (fun a t => g.Coh P a t) axes args i l →
          List.Forall₂ _ l bs)
        (fun _ _ => .nil) (fun _ _ _ _ _ hb _ ih' hc => .cons (ih hc.1 hsel hb) (ih' hc.2))
        hrs ht.2
    obtain ⟨f1, f2, f3, f4⟩ := none_assemble (p := fun t => g.Canon t) hl
    refine ⟨f1, f2, ?_, fun hc => by rw [f4 hc]⟩
    show (TrL.ofList _).retvals = old.retvals
    rw [TrL.retvals_eq, TrL.retvals_eq, TrL.toList_ofList, f3]
  · intro g n ih args t ht s hsel t' w dd h
    obtain ⟨old, c0, rs, c, rfl, -, -, hrs, rfl, rfl, -⟩ := regenerate_scan_inv P cfg h
    -- a step keeps its return value, so it hands on the carry the old step did: the run stays
    -- aligned with the carries under which the old steps are coherent
    have hrun : List.Forall₂ (fun t b => b.2.1 = 0 ∧ b.1.score = t.score ∧ b.1.retval = t.retval ∧
        (g.Canon t → b.1 = t)) old.toList rs ∧ c = c0 :=
      forSteps_induction
        (motive := fun c i l (bs : List (Upd R)) c' => ∀ cF,
          stepsCoh (fun a t => g.Coh P a t) (args.getD 1 .nil) c i l cF → List.Forall₂ _ l bs ∧ c' = cF)
        (fun _ _ _ hc => ⟨.nil, hc.symm⟩)
        (fun _ _ t _ b _ _ _ hb _ ih' cF hc => by
          obtain ⟨h1, rfl⟩ := regenStep_some P cfg hb
          have e := ih hc.1 hsel h1
          exact ⟨.cons e (ih' cF (e.2.2.1 ▸ hc.2)).1, (ih' cF (e.2.2.1 ▸ hc.2)).2⟩)
        hrs _ ht.2
    obtain ⟨hl, rfl⟩ := hrun
    obtain ⟨f1, f2, f3, f4⟩ := none_assemble (p := fun t => g.Canon t) hl
    refine ⟨f1, f2, ?_, fun hc => by rw [f4 hc]⟩
    show Val.pair _ (TrL.ofList _).outs = Val.pair _ old.outs
    rw [TrL.outs_eq, TrL.outs_eq, TrL.toList_ofList, f3]
  · intro tg fg iht ihf args t ht s hsel t' w dd h
    obtain ⟨cOld, a, b, a', wa, da, b', wb, db, rfl, ha, hb, rfl, rfl, -⟩ := regenerate_cond_inv P cfg h
    obtain ⟨rfl, hca, hcb⟩ := ht
    obtain ⟨rfl, a2, a3, a4⟩ := iht hca hsel ha
    obtain ⟨rfl, b2, b3, b4⟩ := ihf hcb hsel hb
    refine ⟨?_, ?_, ?_, fun hc => by rw [a4 hc.1, b4 hc.2]⟩
    · rw [condWeight_eq cfg (.inr rfl), ite_self, add_neg_cancel, add_zero]
    · show (if _ then a'.score else b'.score) = if _ then a.score else b.score
      rw [a2, b2]
    · show (if _ then a'.retval else b'.retval) = if _ then a.retval else b.retval
      rw [a3, b3]
  · intro e env old _ s _ subs sc w d subsF r scF wF dF h
    cases h
    refine ⟨rfl, (add_zero _).symm, rfl, fun tl hc _ => ?_⟩
    cases tl with
    | nil => exact (TrL.append_nil _).symm
    | cons k t tl => exact hc.elim
  · intro addr g es rest ihg ihr env old hcoh s hsel subs sc w d subsF r scF wF dF h
    obtain ⟨hnot, t0, hfind, hg, hrest⟩ := hcoh
    obtain ⟨hnone, sub, t1, w1, d1, hsub, h1, h2⟩ := regenerate_call_inv P cfg h
    cases hfind.symm.trans hsub
    obtain ⟨rfl, e2, e3, e4⟩ := ihg hg (fun p => hsel (addr :: p)) h1
    rw [e3] at h2
    obtain ⟨f1, f2, f3, f4⟩ := ihr hrest hsel h2
    refine ⟨by rw [f1, add_zero], ?_, ?_, ?_⟩
    · rw [f2, e2, Body.scoreOf_call hfind, add_assoc]
    · rw [f3, Body.retOf_call hfind]
    · intro tl hc hfd
      cases tl with
      | nil => exact hc.elim
      | cons k tc tl' =>
        obtain ⟨rfl, hc1, hc2⟩ := hc
        have h0 : tc = t0 := by
          have := hfd k List.mem_cons_self
          rw [hfind] at this
          simpa only [TrL.find?, if_true, Option.some.injEq] using this
        subst h0
        rw [f4 tl' hc2 fun a ha => by
            have hne : a ≠ k := fun e => hnot (e ▸ ha)
            have := hfd a (List.mem_cons_of_mem _ ha)
            simpa only [TrL.find?, hne, if_false] using this,
          e4 hc1, TrL.snoc_append]

/-- C04, empty selection and unchanged arguments: the part that holds as stated -/
theorem regenerate_none_core
    (g : GF) (args : List Val) (t : Tr R) (ht : g.Coh P args t)
    (s : Sel) (hsel : ∀ p, s.selected p = false) (t' : Tr R) (w : R) (d : Option CM)
    (h : g.regenerate P cfg t s args = some (t', w, d)) :
    w = 0 ∧ t'.score = t.score ∧ t'.retval = t.retval := by
  obtain ⟨h1, h2, h3, _⟩ := noneOK_all P cfg g ht hsel h
  exact ⟨h1, h2, h3⟩

theorem regenerate_none_eq
    (g : GF) (args : List Val) (t : Tr R) (ht : g.Coh P args t) (hcan : g.Canon t)
    (s : Sel) (hsel : ∀ p, s.selected p = false) (t' : Tr R) (w : R) (d : Option CM)
    (h : g.regenerate P cfg t s args = some (t', w, d)) : t' = t :=
  (noneOK_all P cfg g ht hsel h).2.2.2 hcan

/-
  C04's clause for the empty selection, read literally -- FALSE (last conjunct):

  theorem regenerate_none
      (g : GF) (args : List Val) (t : Tr R) (ht : g.Coh P args t)
      (s : Sel) (hsel : ∀ p, s.selected p = false) (t' : Tr R) (w : R) (d : Option CM)
      (h : g.regenerate P cfg t s args = some (t', w, d)) :
      w = 0 ∧ t'.score = t.score ∧ t'.retval = t.retval ∧ t'.choices = t.choices

  Reason: `GF.Coh` constrains only the sub-traces a Fn body looks up by address (and ignores the keys of
  lanes / steps), whereas `regenerate` rebuilds the trace in program order with keys `""` for lanes.
  A coherent trace with an unreferenced ("junk") entry, with its entries in another order than the
  program's, or with non-empty lane keys therefore changes its choice map under the empty selection:
  see `regenerate_none_counterexample`.  Cond nodes are *not* an obstacle.
  `g.Canon t` is the shape of every trace the model's operations build (`simulate_canon`,
  `generate_canon`, `update_canon`, `regenerate_canon`).
-/

/-- C04, empty selection: the full conclusion, for traces of canonical shape -/
theorem regenerate_none_partial
    (g : GF) (args : List Val) (t : Tr R) (ht : g.Coh P args t) (hcan : g.Canon t)
    (s : Sel) (hsel : ∀ p, s.selected p = false) (t' : Tr R) (w : R) (d : Option CM)
    (h : g.regenerate P cfg t s args = some (t', w, d)) :
    w = 0 ∧ t'.score = t.score ∧ t'.retval = t.retval ∧ t'.choices = t.choices := by
  obtain ⟨h1, h2, h3, h4⟩ := noneOK_all P cfg g ht hsel h
  exact ⟨h1, h2, h3, by rw [h4 hcan]⟩

/-- `regenerate_none` read literally is false: a coherent trace with a junk entry loses it -/
theorem regenerate_none_counterexample :
    ∃ (g : GF) (args : List Val) (t : Tr R) (s : Sel) (t' : Tr R) (w : R) (d : Option CM),
      g.Coh P args t ∧ (∀ p, s.selected p = false) ∧
      g.regenerate P cfg t s args = some (t', w, d) ∧ t'.choices ≠ t.choices := by
  refine ⟨.fn (.call "a" (.dist 0) [] (.ret (.const 0))), [],
    .fn (.cons "a" (.leaf .nil (-(P.lp 0 [] .nil))) (.cons "junk" (.leaf .nil 0) .nil)) (.num 0)
      (-(P.lp 0 [] .nil) + 0), .none, _, _, _, ?_, Sel.none_selected, rfl, ?_⟩
  · exact And.intro (And.intro List.not_mem_nil ⟨_, rfl, rfl, trivial⟩) ⟨rfl, rfl⟩
  · intro h
    cases h

/-! ### C04, everything selected -/

/-- the hypothesis on `cfg` and the two traces cannot be dropped (`regenerate_all_counterexample`) -/
def AllOK (g : GF) : Prop :=
  ∀ {t : Tr R} {s : Sel}, (∀ p, s.selected p = true) →
    ∀ {args : List Val} {t' : Tr R} {w : R} {d : Option CM},
      g.regenerate P cfg t s args = some (t', w, d) →
      (cfg.condSwitchCorrection = false ∨ Tr.sameChecks t t') → w = 0

def BodyAllOK (b : Body) : Prop :=
  ∀ {old : TrL R} {s : Sel}, (∀ p, s.selected p = true) →
    ∀ {env : List Val} {subs : TrL R} {sc w : R} {d : CML}
      {subsF : TrL R} {r : Val} {scF wF : R} {dF : CML},
      b.regenerate P cfg old s env subs sc w d = some (subsF, r, scF, wF, dF) →
      (cfg.condSwitchCorrection = false ∨ Tr.sameChecks.TrL.sameChecks old subsF) → wF = w

theorem all_sum {g : GF} (ih : AllOK P cfg g) {old : TrL R} {rs : List (Upd R)} {s : Sel}
    (hsel : ∀ p, s.selected p = true)
    (hrun : List.Forall₂ (fun t b => ∃ a, g.regenerate P cfg t s a = some b) old.toList rs)
    (hs : cfg.condSwitchCorrection = false ∨
      Tr.sameChecks.TrL.sameChecksPos old (TrL.ofList (rs.map (·.1)))) :
    sumR (rs.map (·.2.1)) = 0 := by
  have hs' := hs.imp_right fun h => TrL.sameChecksPos_forall₂ h
  rw [TrL.toList_ofList, List.forall₂_map_right_iff] at hs'
  rw [sumR_run (u := fun _ => 0) (v := fun _ => 0) hrun fun t b _ htb ⟨a, hr⟩ =>
      (ih hsel hr (hs'.imp_right fun h => (List.forall₂_zip h htb :))).trans
        (add_zero 0).symm,
    sumR_map_eq_zero fun _ _ => rfl, sumR_map_eq_zero fun _ _ => rfl, add_zero]

theorem allOK_all (g : GF) : AllOK P cfg g := by
  refine GF.rec (motive_1 := fun g => AllOK P cfg g) (motive_2 := fun b => BodyAllOK P cfg b)
    ?_ ?_ ?_ ?_ ?_ ?_ ?_ g
  · intro d t s hsel args t' w dd h hs
    obtain ⟨vOld, sOld, rfl, ⟨-, -, rfl, -⟩ | ⟨hl, -⟩⟩ := regenerate_dist_inv P cfg h
    · rfl
    · cases (hsel []).symm.trans hl
  · intro body ihb t s hsel args t' w dd h hs
    obtain ⟨old, r0, s0, subs, r, sc, d, rfl, hb, rfl, -⟩ := regenerate_fn_inv P cfg h
    exact ihb hsel hb hs
  · intro g axes n ih t s hsel args t' w dd h hs
    obtain ⟨old, rs, rfl, -, hrs, rfl, rfl, -⟩ := regenerate_vmap_inv P cfg h
    exact all_sum P cfg ih hsel (regenerate_vmap_run P cfg hrs) hs
  · intro g n ih t s hsel args t' w dd h hs
    obtain ⟨old, c0, rs, c, rfl, -, -, hrs, rfl, rfl, -⟩ := regenerate_scan_inv P cfg h
    exact all_sum P cfg ih hsel (regenerate_scan_run P cfg hrs) hs
  · intro tg fg iht ihf t s hsel args t' w dd h hs
    obtain ⟨cOld, a, b, a', wa, da, b', wb, db, rfl, ha, hb, rfl, rfl, -⟩ := regenerate_cond_inv P cfg h
    cases iht hsel ha (hs.imp_right (·.2.1))
    cases ihf hsel hb (hs.imp_right (·.2.2))
    rcases hs with hc | ⟨rfl, -, -⟩
    · simp only [condWeight, hc, Bool.false_eq_true, if_false, ite_self]
    · rw [condWeight_eq cfg (.inr rfl), ite_self, add_neg_cancel, add_zero]
  · intro e old s _ env subs sc w d subsF r scF wF dF h _
    cases h
    rfl
  · intro addr g es rest ihg ihr old s hsel env subs sc w d subsF r scF wF dF h hs
    obtain ⟨hnone, t0, t1, w1, d1, hfind, h1, h2⟩ := regenerate_call_inv P cfg h
    have hfF : subsF.find? addr = some t1 :=
      Body.regenerate_find P cfg h2 addr t1 (TrL.find?_snoc_self hnone)
    have hs1 : cfg.condSwitchCorrection = false ∨ Tr.sameChecks t0 t1 :=
      hs.imp_right fun hs => TrL.sameChecks_of_find hs hfind hfF
    rw [ihr hsel h2 hs, ihg (fun p => hsel (addr :: p)) h1 hs1,
      add_zero]

/-- C04, everything selected: the weight is 0, provided the code applies no
    Cond switch correction to `regenerate` or no Cond node switches its branch. -/
theorem regenerate_all_partial
    (g : GF) (t : Tr R)
    (s : Sel) (hsel : ∀ p, s.selected p = true) (args : List Val) (t' : Tr R) (w : R) (d : Option CM)
    (h : g.regenerate P cfg t s args = some (t', w, d))
    (hns : cfg.condSwitchCorrection = false ∨ Tr.sameChecks t t') : w = 0 :=
  allOK_all P cfg g hsel h hns

/-
  C04's clause "0 when everything is selected", read literally -- FALSE:

  theorem regenerate_all
      (g : GF) (args0 : List Val) (t : Tr R)
      (s : Sel) (hsel : ∀ p, s.selected p = true) (args : List Val) (t' : Tr R) (w : R) (d : Option CM)
      (h : g.regenerate P cfg t s args = some (t', w, d)) : w = 0

  Reason: when `cfg.condSwitchCorrection = true` (the specification variant), `Cond.regenerate` adds
  `(visible old score) - (old score of the newly visible branch)` to the weight; when the check
  switches and the two old branch scores differ this is non-zero although both branch weights are 0.
  See `regenerate_all_counterexample`.
-/

/-- `regenerate_all` read literally is false for the variant with the Cond switch correction, even for a
    coherent trace, as soon as some log density is non-zero -/
theorem regenerate_all_counterexample (x : R) (hx : x ≠ 0) :
    ∃ (P : Prims R) (cfg : Cfg) (g : GF) (args0 : List Val) (t : Tr R) (s : Sel) (args : List Val)
      (t' : Tr R) (w : R) (d : Option CM),
      g.Coh P args0 t ∧ (∀ p, s.selected p = true) ∧
      g.regenerate P cfg t s args = some (t', w, d) ∧ w ≠ 0 := by
  refine ⟨⟨fun _ _ v => if v = Val.nil then -x else 0, fun _ _ => .nil⟩, Cfg.spec,
    .cond (.dist 0) (.dist 0), [.num 1],
    .cond true (.leaf .nil x) (.leaf (.num 1) 0), .all, [.num 0], _, _, _, ?_, Sel.all_selected, rfl, ?_⟩
  · exact And.intro rfl ⟨(neg_neg x).symm, neg_zero.symm⟩
  · show (0 : R) + (x + -0) ≠ 0
    rwa [neg_zero, add_zero, zero_add]

/-! ### histories -/

inductive Op where
  | update (x : Option CM) (args : List Val)
  | regenerate (s : Sel) (args : List Val)

/-- new trace, its recorded arguments, weight -/
def applyOp (g : GF) (t : Tr R) : Op → Option (Tr R × List Val × R)
  | .update x args => (g.update P cfg t x args).map fun r => (r.1, args, r.2.1)
  | .regenerate s args => (g.regenerate P cfg t s args).map fun r => (r.1, args, r.2.1)

def applyOps (g : GF) : Tr R → List Val → List Op → Option (Tr R × List Val)
  | t, a, [] => some (t, a)
  | t, _, op :: ops =>
    match applyOp P cfg g t op with
    | some (t', a', _) => applyOps g t' a' ops
    | none => none

def Op.args : Op → List Val
  | .update _ a => a
  | .regenerate _ a => a

theorem applyOp_coh (g : GF) (t : Tr R) (op : Op) (t' : Tr R) (a' : List Val) (w : R)
    (h : applyOp P cfg g t op = some (t', a', w)) : g.Coh P a' t' ∧ a' = op.args := by
  cases op with
  | update x args =>
    obtain ⟨⟨t2, w2, d2⟩, hu, e⟩ := Option.map_eq_some_iff.mp h
    cases e
    exact ⟨update_coh P cfg g t x _ _ _ _ hu, rfl⟩
  | regenerate s args =>
    obtain ⟨⟨t2, w2, d2⟩, hu, e⟩ := Option.map_eq_some_iff.mp h
    cases e
    exact ⟨regenerate_coh P cfg g t s _ _ _ _ hu, rfl⟩

theorem applyOp_canon (g : GF) (t : Tr R) (op : Op) (t' : Tr R) (a' : List Val) (w : R)
    (h : applyOp P cfg g t op = some (t', a', w)) : g.Canon t' := by
  cases op with
  | update x args =>
    obtain ⟨⟨t2, w2, d2⟩, hu, e⟩ := Option.map_eq_some_iff.mp h
    cases e
    exact update_canon P cfg g t x _ _ _ _ hu
  | regenerate s args =>
    obtain ⟨⟨t2, w2, d2⟩, hu, e⟩ := Option.map_eq_some_iff.mp h
    cases e
    exact regenerate_canon P cfg g t s _ _ _ _ hu

theorem applyOps_induction {g : GF} {Inv : Tr R → List Val → Prop}
    (step : ∀ t a op t' a' w, Inv t a → applyOp P cfg g t op = some (t', a', w) → Inv t' a')
    {t : Tr R} {a : List Val} (h0 : Inv t a) {ops : List Op} {t' : Tr R} {a' : List Val}
    (h : applyOps P cfg g t a ops = some (t', a')) : Inv t' a' := by
  induction ops generalizing t a with
  | nil => cases h; exact h0
  | cons op ops ih =>
    unfold applyOps at h
    split at h
    · rename_i t1 a1 w1 hop
      exact ih (step t a op t1 a1 w1 h0 hop) h
    · cases h

/-- C05: coherence under the recorded arguments is preserved by any finite history -/
theorem history_coh (g : GF) (t : Tr R) (a : List Val) (ht : g.Coh P a t) (ops : List Op)
    (t' : Tr R) (a' : List Val) (h : applyOps P cfg g t a ops = some (t', a')) :
    g.Coh P a' t' :=
  applyOps_induction P cfg (Inv := fun t a => g.Coh P a t)
    (fun t _ op t' a' w _ hop => (applyOp_coh P cfg g t op t' a' w hop).1) ht h

theorem history_canon (g : GF) (t : Tr R) (a : List Val) (ht : g.Canon t) (ops : List Op)
    (t' : Tr R) (a' : List Val) (h : applyOps P cfg g t a ops = some (t', a')) : g.Canon t' :=
  applyOps_induction P cfg (Inv := fun t _ => g.Canon t)
    (fun t _ op t' a' w _ hop => applyOp_canon P cfg g t op t' a' w hop) ht h

def applyUpdates (g : GF) : Tr R → List (Option CM × List Val) → Option (Tr R × R)
  | t, [] => some (t, 0)
  | t, (x, args) :: rest =>
    match g.update P cfg t x args with
    | some (t', w, _) => (applyUpdates g t' rest).map fun r => (r.1, w + r.2)
    | none => none

/-- C05: the weights of consecutive updates telescope (specification variant of Cond) -/
theorem updates_telescope (hc : cfg.condSwitchCorrection = true)
    (g : GF) (a : List Val) (t : Tr R) (ht : g.Coh P a t)
    (us : List (Option CM × List Val)) (t' : Tr R) (w : R)
    (h : applyUpdates P cfg g t us = some (t', w)) : w = t.score + -t'.score := by
  induction us generalizing t a w with
  | nil => cases h; exact (add_neg_cancel _).symm
  | cons u us ih =>
    obtain ⟨x, args⟩ := u
    unfold applyUpdates at h
    split at h
    · rename_i t1 w1 d1 hu
      obtain ⟨⟨t2, w2⟩, h2, e⟩ := Option.map_eq_some_iff.mp h
      cases e
      show w1 + w2 = t.score + -t2.score
      rw [update_weight_spec P cfg hc g a t ht x args t1 w1 d1 hu,
        ih args t1 (update_coh P cfg g t x args t1 w1 d1 hu) w2 h2]
      abel
    · cases h

end Genjax

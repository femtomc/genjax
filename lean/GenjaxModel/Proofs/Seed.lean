import GenjaxModel.Model.Seed
/-!
  C06/C07: within one seeded run no two sample sites receive the same key, and no site key is
  derived from another site's key (in the free algebra of split/fold_in), for every program shape
  (`siteKeys_nodup`, `siteKeys_no_ancestor`).  Key paths are read as words of derivation steps and
  `KP.under` as the suffix order on words; `Inv` is the invariant of the key-threading interpreter.
-/
namespace Genjax.Seed

/-! ### key paths are words of derivation steps; `under` is the suffix order on words -/

/-- a half of `split`, or `fold_in` -/
inductive Step where
  | L | R | fold (j : Nat)

namespace KP

/-- the steps from the root to a key, last step first -/
def path : KP → List Step
  | .root => []
  | .L k => .L :: k.path
  | .R k => .R :: k.path
  | .fold k j => .fold j :: k.path

/-- left inverse of `path` -/
def ofPath : List Step → KP
  | [] => .root
  | .L :: p => .L (ofPath p)
  | .R :: p => .R (ofPath p)
  | .fold j :: p => .fold (ofPath p) j

theorem ofPath_path (k : KP) : ofPath k.path = k := by
  induction k <;> simp [path, ofPath, *]

theorem path_inj {a b : KP} : a.path = b.path ↔ a = b :=
  ⟨fun h => by simpa only [ofPath_path] using congrArg ofPath h, congrArg path⟩

theorem under_iff {a b : KP} : under a b = true ↔ a.path <:+ b.path := by
  induction b <;> simp [under, List.suffix_cons_iff, ← path_inj, path, *]

theorem under_refl (k : KP) : under k k = true := under_iff.2 List.suffix_rfl

theorem under_trans {a b c : KP} (h1 : under a b = true) (h2 : under b c = true) :
    under a c = true :=
  under_iff.2 ((under_iff.1 h1).trans (under_iff.1 h2))

theorem under_antisymm {a b : KP} (h1 : under a b = true) (h2 : under b a = true) : a = b :=
  path_inj.1 ((under_iff.1 h1).eq_of_length_le (under_iff.1 h2).length_le)

theorem under_step {s : Step} {a b : KP} (h : b.path = s :: a.path) : under a b = true :=
  under_iff.2 (h ▸ List.suffix_cons _ _)

theorem not_under_step {s : Step} {a b : KP} (h : b.path = s :: a.path) : under b a = false := by
  rw [← Bool.not_eq_true, under_iff, h]
  exact fun hs => Nat.not_succ_le_self _ hs.length_le

end KP

def Incomp (a b : KP) : Prop := KP.under a b = false ∧ KP.under b a = false

theorem incomp_iff {a b : KP} : Incomp a b ↔ ¬ a.path <:+ b.path ∧ ¬ b.path <:+ a.path := by
  simp [Incomp, ← KP.under_iff]

theorem Incomp.symm {a b : KP} (h : Incomp a b) : Incomp b a := ⟨h.2, h.1⟩

theorem Incomp.ne {a b : KP} (h : Incomp a b) : a ≠ b :=
  fun e => Bool.false_ne_true (h.1.symm.trans (e ▸ KP.under_refl a))

/-- two ancestors of a common node are comparable -/
theorem Incomp.mono {a b e f : KP} (h : Incomp a b) (he : KP.under a e = true)
    (hf : KP.under b f = true) : Incomp e f := by
  rw [incomp_iff] at h ⊢
  rw [KP.under_iff] at he hf
  exact ⟨fun hu => (List.suffix_or_suffix_of_suffix (he.trans hu) hf).elim h.1 h.2,
    fun hu => (List.suffix_or_suffix_of_suffix he (hf.trans hu)).elim h.1 h.2⟩

theorem incomp_of_steps {s t : Step} {a b k : KP} (ha : a.path = s :: k.path)
    (hb : b.path = t :: k.path) (h : s ≠ t) : Incomp a b := by
  have key : ∀ {s t : Step}, s ≠ t → ¬ (s :: k.path) <:+ (t :: k.path) := fun h hs =>
    (List.suffix_cons_iff.1 hs).elim (fun e => h (List.cons.inj e).1)
      fun hs => Nat.not_succ_le_self _ hs.length_le
  rw [incomp_iff, ha, hb]
  exact ⟨key h, key h.symm⟩

theorem incomp_R_L (k : KP) : Incomp (.R k) (.L k) := incomp_of_steps rfl rfl nofun

theorem incomp_fold (k : KP) {j j' : Nat} (h : j ≠ j') : Incomp (.fold k j) (.fold k j') :=
  incomp_of_steps rfl rfl fun e => h (Step.fold.inj e)

/-! ### the invariant of the key-threading interpreter -/

/-- invariant of a run started at running key `k` with result `r = (handed-out keys, final key)` -/
structure Inv (k : KP) (r : List (Nat × List Nat × KP) × KP) : Prop where
  /-- the final running key is below the initial one -/
  fin : KP.under k r.2 = true
  /-- every handed-out key is strictly below the initial running key -/
  below : ∀ e ∈ r.1, KP.under k e.2.2 = true ∧ e.2.2 ≠ k
  /-- every handed-out key is incomparable with the final running key -/
  sep : ∀ e ∈ r.1, Incomp e.2.2 r.2
  /-- handed-out keys are pairwise incomparable -/
  pw : r.1.Pairwise fun e f => Incomp e.2.2 f.2.2

theorem Inv.nil (k : KP) : Inv k ([], k) := ⟨KP.under_refl k, nofun, nofun, .nil⟩

/-- a statement that splits the running key once: the keys it hands out lie below the sub key -/
theorem Inv.split {k : KP} {l : List (Nat × List Nat × KP)}
    (hl : ∀ e ∈ l, KP.under (.R k) e.2.2 = true) (pw : l.Pairwise fun e f => Incomp e.2.2 f.2.2) :
    Inv k (l, .L k) where
  fin := KP.under_step (s := .L) rfl
  below e he := ⟨KP.under_trans (KP.under_step (s := .R) rfl) (hl e he),
    fun hk => Bool.false_ne_true ((KP.not_under_step (s := .R) rfl).symm.trans (hk ▸ hl e he))⟩
  sep e he := (incomp_R_L k).mono (hl e he) (KP.under_refl _)
  pw := pw

theorem Inv.append {k k' k'' : KP} {a b : List (Nat × List Nat × KP)} (h1 : Inv k (a, k'))
    (h2 : Inv k' (b, k'')) : Inv k (a ++ b, k'') where
  fin := KP.under_trans h1.fin h2.fin
  below e he := by
    rcases List.mem_append.1 he with he | he
    · exact h1.below e he
    · obtain ⟨hu, hne⟩ := h2.below e he
      exact ⟨KP.under_trans h1.fin hu, fun hk => hne (KP.under_antisymm (hk ▸ h1.fin) hu)⟩
  sep e he := (List.mem_append.1 he).elim
    (fun he => (h1.sep e he).mono (KP.under_refl _) h2.fin) (h2.sep e)
  pw := List.pairwise_append.2 ⟨h1.pw, h2.pw, fun e he f hf =>
    (h1.sep e he).mono (KP.under_refl _) (h2.below f hf).1⟩

mutual
  theorem Stmt.inv : ∀ (s : Stmt) (k : KP) (it : List Nat), Inv k (s.keys k it)
    | .site id, k, _ => Inv.split (by simp [KP.under_refl]) (List.pairwise_singleton _ _)
    | .cond taken, k, it =>
      Inv.split (fun e he => ((Prog.inv taken (.R k) it).below e he).1) (Prog.inv taken (.R k) it).pw
    | .scan body n, k, it => by
      have ih := fun j => Prog.inv body (.fold (.R k) j) (it ++ [j])
      refine Inv.split (fun e he => ?_) (List.pairwise_flatMap.2 ⟨fun j _ => (ih j).pw, ?_⟩)
      · obtain ⟨j, _, he⟩ := List.mem_flatMap.1 he
        exact KP.under_trans (KP.under_step (s := .fold j) rfl) ((ih j).below e he).1
      · exact List.pairwise_lt_range.imp fun hlt e he f hf =>
          (incomp_fold (.R k) (Nat.ne_of_lt hlt)).mono ((ih _).below e he).1 ((ih _).below f hf).1
    | .other, k, _ => Inv.nil k
  theorem Prog.inv : ∀ (p : Prog) (k : KP) (it : List Nat), Inv k (p.keys k it)
    | .nil, k, _ => Inv.nil k
    | .cons s rest, k, it => (Stmt.inv s k it).append (Prog.inv rest (s.keys k it).2 it)
end

theorem incomp_of_pairwise {l : List (Nat × List Nat × KP)}
    (h : l.Pairwise fun e f => Incomp e.2.2 f.2.2) :
    ∀ a ∈ l, ∀ b ∈ l, a.2.2 ≠ b.2.2 → Incomp a.2.2 b.2.2 := by
  induction h with
  | nil => nofun
  | cons hx _ ih =>
    rintro a (_ | ⟨_, ha⟩) b (_ | ⟨_, hb⟩) hne
    · exact absurd rfl hne
    · exact hx b hb
    · exact (hx a ha).symm
    · exact ih a ha b hb hne

theorem keys_below (p : Prog) (k : KP) (it : List Nat) :
    (∀ e ∈ (p.keys k it).1, KP.under k e.2.2 = true ∧ e.2.2 ≠ k) ∧ KP.under k (p.keys k it).2 = true :=
  ⟨(Prog.inv p k it).below, (Prog.inv p k it).fin⟩

/-- C07: all sites of one run get pairwise distinct keys -/
theorem siteKeys_nodup (p : Prog) : ((siteKeys p).map fun e => e.2.2).Nodup :=
  List.pairwise_map.2 ((Prog.inv p .root []).pw.imp Incomp.ne)

/-- stronger: no site's stream is derived from another site's key by further splitting -/
theorem siteKeys_no_ancestor (p : Prog) (a b : Nat × List Nat × KP)
    (ha : a ∈ siteKeys p) (hb : b ∈ siteKeys p) (hne : a.2.2 ≠ b.2.2) :
    KP.under a.2.2 b.2.2 = false :=
  (incomp_of_pairwise (Prog.inv p .root []).pw a ha b hb hne).1

theorem scan_site_count (id n : Nat) :
    (siteKeys (.cons (.scan (.cons (.site id) .nil) n) .nil)).length = n := by
  simp [siteKeys, Prog.keys, Stmt.keys, List.map_const']

end Genjax.Seed
#print axioms Genjax.Seed.keys_below
#print axioms Genjax.Seed.siteKeys_nodup
#print axioms Genjax.Seed.siteKeys_no_ancestor
#print axioms Genjax.Seed.scan_site_count

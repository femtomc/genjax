import GenjaxModel.Proofs.GfiValuesUpdate
import GenjaxModel.Proofs.GfiValuesDraws
/-!
  C03: the round trip `update` → `update` back with the discard and the old arguments restores the
  original choices with the negated weight (specification variant of `Cond.update`).

  Ingredients: the discard holds the old value of every address (`update_discard_eq_old`), constrained
  addresses hold the constraint (`update_constrained_hold_new`), the leaf domain is preserved
  (`update_leaf_domain`), and extensionality of choice maps: two maps with the same skeleton and the
  same value at every path are equal, provided no dictionary binds an address twice (`CM.ext_leafAt`);
  the choice map of every canonical coherent trace has that property (`canon_coh_nodup`).
-/
namespace Genjax

/-! ## choice maps without duplicate bindings, and extensionality -/

mutual
  /-- no dictionary of the map binds an address twice -/
  def CM.nodup : CM → Prop
    | .leaf _ => True
    | .node l => l.nodupN
    | .lanes l => l.nodupL
  def CML.nodupN : CML → Prop
    | .nil => True
    | .cons k v rest => rest.find? k = none ∧ v.nodup ∧ rest.nodupN
  def CML.nodupL : CML → Prop
    | .nil => True
    | .cons _ v rest => v.nodup ∧ rest.nodupL
end

theorem CML.find?_none_of_skel {a b : CML} (h : a.skel = b.skel) (k : String)
    (ha : a.find? k = none) : b.find? k = none := by
  have h1 := CML.find?_skel a k
  have h2 := CML.find?_skel b k
  rw [h, h2, ha] at h1
  simpa using h1

theorem CML.ext_both (a : CML) :
    (∀ b, a.skel = b.skel → a.nodupN → (∀ k p, a.leafAtKey k p = b.leafAtKey k p) → a = b) ∧
    (∀ b, a.skel = b.skel → a.nodupL → (∀ i p, a.leafAtIdx i p = b.leafAtIdx i p) → a = b) := by
  refine CML.rec
    (motive_1 := fun x => ∀ y, x.skel = y.skel → x.nodup → (∀ p, x.leafAt p = y.leafAt p) → x = y)
    (motive_2 := fun a =>
      (∀ b, a.skel = b.skel → a.nodupN → (∀ k p, a.leafAtKey k p = b.leafAtKey k p) → a = b) ∧
      (∀ b, a.skel = b.skel → a.nodupL → (∀ i p, a.leafAtIdx i p = b.leafAtIdx i p) → a = b))
    ?_ ?_ ?_ ?_ ?_ a
  · intro v y hs _ h
    cases y <;> try cases hs
    exact congrArg CM.leaf (Option.some.inj (h []))
  · intro a ih y hs hn h
    cases y <;> try cases hs
    exact congrArg CM.node (ih.1 _ (CM.node.inj hs) hn fun k p => h (.key k :: p))
  · intro a ih y hs hn h
    cases y <;> try cases hs
    exact congrArg CM.lanes (ih.2 _ (CM.lanes.inj hs) hn fun i p => h (.idx i :: p))
  · refine ⟨fun b hs _ _ => ?_, fun b hs _ _ => ?_⟩ <;> cases b <;> first | rfl | cases hs
  · intro k v rest ihv ihr
    refine ⟨fun b hs hn h => ?_, fun b hs hn h => ?_⟩
    · cases b with
      | nil => cases hs
      | cons k' v' rest' =>
        obtain ⟨rfl, hv, hr⟩ := CML.cons.inj hs
        obtain ⟨hk, hnv, hnr⟩ := hn
        have e1 : v = v' := ihv v' hv hnv fun p => by
          have := h k p
          rwa [CML.leafAtKey, CML.leafAtKey, if_pos rfl, if_pos rfl] at this
        have e2 : rest = rest' := ihr.1 rest' hr hnr fun k2 p => by
          by_cases hk2 : k2 = k
          · subst hk2
            rw [CML.leafAtKey_eq, CML.leafAtKey_eq, hk, CML.find?_none_of_skel hr k2 hk]
          · have := h k2 p
            rwa [CML.leafAtKey, CML.leafAtKey, if_neg hk2, if_neg hk2] at this
        rw [e1, e2]
    · cases b with
      | nil => cases hs
      | cons k' v' rest' =>
        obtain ⟨rfl, hv, hr⟩ := CML.cons.inj hs
        rw [ihv v' hv hn.1 fun p => h 0 p, ihr.2 rest' hr hn.2 fun i p => h (i + 1) p]

theorem CML.extN : (a b : CML) → a.skel = b.skel → a.nodupN →
    (∀ k p, a.leafAtKey k p = b.leafAtKey k p) → a = b :=
  fun a => (CML.ext_both a).1

theorem CML.extL : (a b : CML) → a.skel = b.skel → a.nodupL →
    (∀ i p, a.leafAtIdx i p = b.leafAtIdx i p) → a = b :=
  fun a => (CML.ext_both a).2

theorem CM.ext_leafAt (x y : CM) (hs : x.skel = y.skel) (hn : x.nodup)
    (h : ∀ p, x.leafAt p = y.leafAt p) : x = y := by
  cases x <;> cases y <;> try cases hs
  · exact congrArg CM.leaf (Option.some.inj (h []))
  · exact congrArg CM.node (CML.extN _ _ (CM.node.inj hs) hn fun k p => h (.key k :: p))
  · exact congrArg CM.lanes (CML.extL _ _ (CM.lanes.inj hs) hn fun i p => h (.idx i :: p))

/-! ## merging preserves the absence of duplicate bindings -/

theorem CML.find?_erase_self_none (b : CML) (k : String) : b.nodupN → (b.erase k).find? k = none := by
  induction b using CML.list_induction with
  | nil => exact fun _ => rfl
  | cons k0 v rest ih =>
    intro hn
    rw [CML.erase]
    split
    · rename_i he; subst he; exact hn.1
    · rename_i hne
      rw [CML.find?, if_neg hne]
      exact ih hn.2.2

theorem CML.find?_erase_none (b : CML) (k k' : String) :
    b.find? k' = none → (b.erase k).find? k' = none := by
  induction b using CML.list_induction with
  | nil => exact fun _ => rfl
  | cons k0 v rest ih =>
    intro h
    rw [CML.find?] at h
    split at h
    · cases h
    rename_i hne
    rw [CML.erase]
    split
    · exact h
    · rw [CML.find?, if_neg hne]
      exact ih h

theorem CML.erase_nodupN (b : CML) (k : String) : b.nodupN → (b.erase k).nodupN := by
  induction b using CML.list_induction with
  | nil => exact fun _ => trivial
  | cons k0 v rest ih =>
    intro hn
    rw [CML.erase]
    split
    · exact hn.2.2
    · exact ⟨CML.find?_erase_none rest k k0 hn.1, hn.2.1, ih hn.2.2⟩

theorem CML.find?_nodup (b : CML) (k : String) (v : CM) : b.nodupN → b.find? k = some v → v.nodup := by
  induction b using CML.list_induction with
  | nil => exact fun _ h => nomatch h
  | cons k0 v0 rest ih =>
    intro hn h
    rw [CML.find?] at h
    split at h
    · cases h; exact hn.2.1
    · exact ih hn.2.2 h

theorem CML.mergeCheck_find_none (c : Bool) (a b m : CML) (h : CML.mergeCheck c a b = some m)
    (k : String) (ha : a.find? k = none) (hb : b.find? k = none) : m.find? k = none := by
  have := CML.mergeCheck_find c a b m h k
  rw [ha, hb] at this
  exact this

theorem CML.merge_nodup (c : Bool) (a : CML) :
    (∀ b m, CML.mergeCheck c a b = some m → a.nodupN → b.nodupN → m.nodupN) ∧
    (∀ b m, CML.mergeLanes c a b = some m → a.nodupL → b.nodupL → m.nodupL) := by
  refine CML.rec
    (motive_1 := fun a => ∀ b m, CM.mergeCheck c a b = some m → a.nodup → b.nodup → m.nodup)
    (motive_2 := fun a =>
      (∀ b m, CML.mergeCheck c a b = some m → a.nodupN → b.nodupN → m.nodupN) ∧
      (∀ b m, CML.mergeLanes c a b = some m → a.nodupL → b.nodupL → m.nodupL))
    ?_ ?_ ?_ ?_ ?_ a
  · intro va b m h _ _
    cases b <;> cases h
    trivial
  · intro a ih b m h ha hb
    cases b <;> try cases h
    obtain ⟨m', hm', rfl⟩ := Option.map_eq_some_iff.mp h
    exact ih.1 _ m' hm' ha hb
  · intro a ih b m h ha hb
    cases b <;> try cases h
    obtain ⟨m', hm', rfl⟩ := Option.map_eq_some_iff.mp h
    exact ih.2 _ m' hm' ha hb
  · refine ⟨fun b m h _ hb => ?_, fun b m h _ _ => ?_⟩
    · cases h
      exact hb
    · cases b <;> cases h
      trivial
  · intro k v rest ihv ihr
    refine ⟨fun b m h ha hb => ?_, fun b m h ha hb => ?_⟩
    · obtain ⟨hk, hv, hr⟩ := ha
      rw [CML.mergeCheck] at h
      split at h
      · rename_i v' hv'
        obtain ⟨mv, hmv, h⟩ := Option.bind_eq_some_iff.mp h
        obtain ⟨r, hrr, h⟩ := Option.bind_eq_some_iff.mp h
        cases h
        exact ⟨CML.mergeCheck_find_none c rest _ r hrr k hk (CML.find?_erase_self_none b k hb),
          ihv v' mv hmv hv (CML.find?_nodup b k v' hb hv'),
          ihr.1 _ r hrr hr (CML.erase_nodupN b k hb)⟩
      · rename_i hv'
        obtain ⟨r, hrr, h⟩ := Option.bind_eq_some_iff.mp h
        cases h
        exact ⟨CML.mergeCheck_find_none c rest b r hrr k hk hv', hv, ihr.1 b r hrr hr hb⟩
    · cases b with
      | nil => cases h
      | cons k' v' rest' =>
        rw [CML.mergeLanes] at h
        obtain ⟨mv, hmv, h⟩ := Option.bind_eq_some_iff.mp h
        obtain ⟨r, hr, h⟩ := Option.bind_eq_some_iff.mp h
        cases h
        exact ⟨ihv v' mv hmv ha.1 hb.1, ihr.2 rest' r hr ha.2 hb.2⟩

theorem CML.mergeLanes_nodup (c : Bool) : (a b m : CML) → CML.mergeLanes c a b = some m →
    a.nodupL → b.nodupL → m.nodupL :=
  fun a => (CML.merge_nodup c a).2

theorem CM.mergeCheck_nodup (c : Bool) (a b m : CM) (h : CM.mergeCheck c a b = some m)
    (ha : a.nodup) (hb : b.nodup) : m.nodup := by
  rcases CM.mergeCheck_inv h with ⟨_, _, rfl, rfl, rfl⟩ | ⟨la, lb, lm, rfl, rfl, rfl, hl⟩ |
    ⟨la, lb, lm, rfl, rfl, rfl, hl⟩
  · trivial
  · exact (CML.merge_nodup c la).1 lb lm hl ha hb
  · exact (CML.merge_nodup c la).2 lb lm hl ha hb

/-! ## the choice map of a canonical coherent trace binds no address twice -/

section Nodup
variable {R : Type} [Zero R] [Add R] [Neg R] (P : Prims R)

omit [Zero R] [Add R] [Neg R] in
theorem TrL.choices_nodupL (l : TrL R) : ∀ xl, l.choices = some xl →
    (∀ (i : Nat) t y, l.toList[i]? = some t → t.choices = some y → y.nodup) → xl.nodupL := by
  induction l using TrL.list_induction with
  | nil => intro xl hx _; cases hx; trivial
  | cons k t rest ih =>
    intro xl hx h
    obtain ⟨c, r, hc, hr, rfl⟩ := TrL.choices_cons.mp hx
    exact ⟨h 0 t c rfl hc, ih r hr fun i t y ht hy => h (i + 1) t y ht hy⟩

/-- `full` / `tl` as in `BodyNoneOK` (Proofs/GfiRegen.lean) -/
theorem canon_coh_nodup_sites (b : Body)
    (hg : ∀ a g es, b.site a = some (g, es) → ∀ (args : List Val) (t : Tr R),
      g.Canon t → g.Coh P args t → ∀ y, t.choices = some y → y.nodup) :
    ∀ (env : List Val) (full tl : TrL R), b.CanonL tl → b.Coh P env full →
      (∀ a ∈ b.addrs, full.find? a = tl.find? a) → ∀ xl, tl.choices = some xl → xl.nodupN := by
  induction b using Body.list_induction with
  | ret e =>
    intro env full tl hc _ _ xl hx
    cases tl with
    | nil => cases hx; trivial
    | cons _ _ _ => exact hc.elim
  | call addr g es rest ih =>
    intro env full tl hc h hf xl hx
    cases tl with
    | nil => exact hc.elim
    | cons k t tl' =>
      obtain ⟨rfl, hgc, hrc⟩ := hc
      obtain ⟨hnot, t', hft, hgh, hrh⟩ := h
      have hk : full.find? k = some t :=
        (hf k List.mem_cons_self).trans (by rw [TrL.find?, if_pos rfl])
      cases hft.symm.trans hk
      obtain ⟨c, r, hcc, hr, rfl⟩ := TrL.choices_cons.mp hx
      refine ⟨?_, hg k g es (by rw [Body.site, if_pos rfl]) _ t hgc hgh c hcc, ?_⟩
      · rw [TrL.choices_find_eq tl' r hr k, Body.canonL_site_none rest tl' hrc k
          (Body.site_none_of_not_mem rest k hnot)]
        rfl
      · refine ih (fun a g' es' hs => hg a g' es' ?_) _ full tl' hrc hrh (fun a ha => ?_) r hr
        · have hne : a ≠ k := by
            rintro rfl
            rw [Body.site_none_of_not_mem rest a hnot] at hs
            cases hs
          rw [Body.site, if_neg hne]
          exact hs
        · have hne : a ≠ k := by rintro rfl; exact hnot ha
          rw [hf a (List.mem_cons_of_mem _ ha), TrL.find?, if_neg hne]

theorem canon_coh_nodup : ∀ (g : GF) (args : List Val) (t : Tr R), g.Canon t → g.Coh P args t →
    ∀ y, t.choices = some y → y.nodup := by
  refine GF.induct_sites _ ?_ ?_ ?_ ?_ ?_
  · intro d args t hc h y hy
    cases t <;> first | (cases hy; trivial) | exact hc.elim
  · intro body ih args t hc h y hy
    cases t <;> try exact hc.elim
    obtain ⟨xl, hxl, rfl⟩ := Option.map_eq_some_iff.mp hy
    exact canon_coh_nodup_sites P body ih args _ _ hc h.1 (fun _ _ => rfl) xl hxl
  · intro g axes n ih args t hc h y hy
    cases t <;> try exact hc.elim
    rename_i lanes
    obtain ⟨xl, hxl, rfl⟩ := Option.map_eq_some_iff.mp hy
    exact TrL.choices_nodupL lanes xl hxl fun i t y ht hy =>
      ih _ t (lanesCanon_get _ lanes hc i t ht) ((lanesCoh_iff _ axes args _ 0).mp h.2 i t ht) y hy
  · intro g n ih args t hc h y hy
    cases t <;> try exact hc.elim
    rename_i steps c
    obtain ⟨xl, hxl, rfl⟩ := Option.map_eq_some_iff.mp hy
    exact TrL.choices_nodupL steps xl hxl fun i t y ht hy =>
      ih _ t (lanesCanon_get _ steps hc i t ht)
        (stepsCoh_get _ (args.getD 1 .nil) _ _ 0 c h.2 i t ht) y hy
  · intro tg fg iht ihf args t hc h y hy
    cases t <;> try exact hc.elim
    rename_i c a b
    obtain ⟨ya, hya, hy⟩ := Option.bind_eq_some_iff.mp hy
    obtain ⟨yb, hyb, hm⟩ := Option.bind_eq_some_iff.mp hy
    exact CM.mergeCheck_nodup c ya yb y hm (iht _ a hc.1 h.2.1 ya hya) (ihf _ b hc.2 h.2.2 yb hyb)

theorem canon_coh_nodup_body : (b : Body) → ∀ (env : List Val) (full tl : TrL R),
    b.CanonL tl → b.Coh P env full → (∀ a ∈ b.addrs, full.find? a = tl.find? a) →
    ∀ xl, tl.choices = some xl → xl.nodupN :=
  fun b => canon_coh_nodup_sites P b fun _ g _ _ => canon_coh_nodup P g

end Nodup

/-! ## the round trip -/

section Roundtrip
variable {R : Type} [AddCommGroup R] (P : Prims R) (cfg : Cfg)

/-- C03 (specification variant of `Cond.update`: branch-switch correction and visible discard):
    update with any constraint and any new arguments, then update the result with the returned
    discard and the old arguments: the final trace has the ORIGINAL choice map and the second weight
    is the negated first weight, also across Cond branch switches. -/
theorem update_roundtrip (hsw : cfg.condSwitchCorrection = true)
    (hdv : cfg.condDiscardVisible = true)
    (g : GF) (args0 : List Val) (t : Tr R) (hcan : g.Canon t) (hcoh : g.Coh P args0 t)
    (y : CM) (hy : t.choices = some y)
    (x : Option CM) (args : List Val) (t' : Tr R) (w : R) (d : Option CM)
    (h1 : g.update P cfg t x args = some (t', w, d))
    (t'' : Tr R) (w2 : R) (d2 : Option CM)
    (h2 : g.update P cfg t' d args0 = some (t'', w2, d2)) :
    t''.choices = some y ∧ w2 = -w := by
  have hsk : t.choices.map CM.skel = g.skel := canon_choices_skel P g args0 t hcan hcoh
  have hsk' := update_choices_skel P cfg g t x args t' w d h1
  have hsk'' := update_choices_skel P cfg g t' d args0 t'' w2 d2 h2
  rw [hy] at hsk
  obtain ⟨y', hy'⟩ := choices_of_skel hsk' (hsk ▸ rfl)
  obtain ⟨y'', hy''⟩ := choices_of_skel hsk'' (hsk ▸ rfl)
  have hcan' := update_canon P cfg g t x args t' w d h1
  have hcoh' := update_coh P cfg g t x args t' w d h1
  have hcoh'' := update_coh P cfg g t' d args0 t'' w2 d2 h2
  -- the second update is constrained, at every address, to the value the first one discarded
  have hleaf : ∀ p, y''.leafAt p = y.leafAt p := fun p =>
    Option.eq_of_isSome_eq
      ((update_leaf_domain P cfg g t' d args0 t'' w2 d2 h2 hcan' y' y'' hy' hy'' p).trans
        (update_leaf_domain P cfg g t x args t' w d h1 hcan y y' hy hy' p))
      fun v2 v e2 e0 => update_constrained_hold_new P cfg g t' d args0 t'' w2 d2 h2 y'' hy'' p v
        ((update_discard_eq_old P cfg hdv g t x args t' w d h1 hcan y hy p).trans e0) v2 e2
  have hskel : y''.skel = y.skel := by
    rw [hy'', ← hsk] at hsk''
    exact Option.some.inj hsk''
  obtain rfl : y'' = y := CM.ext_leafAt y'' y hskel
    (canon_coh_nodup P g args0 t'' (update_canon P cfg g t' d args0 t'' w2 d2 h2) hcoh'' y'' hy'')
    hleaf
  refine ⟨hy'', ?_⟩
  -- equal choice maps under the same arguments give equal scores, by `coh_assess` twice
  have hs : -t.score = -t''.score := congrArg Prod.fst (Option.some.inj
    ((coh_assess P g args0 t hcoh y'' hy).symm.trans (coh_assess P g args0 t'' hcoh'' y'' hy'')))
  rw [update_weight_spec P cfg hsw g args0 t hcoh x args t' w d h1,
    update_weight_spec P cfg hsw g args t' hcoh' d args0 t'' w2 d2 h2, neg_add, neg_neg, ← hs,
    add_comm]

end Roundtrip

end Genjax

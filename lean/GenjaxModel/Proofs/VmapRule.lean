import GenjaxModel.Model.VmapRule
import Mathlib.Data.List.Forall2
/-!
  C08, value level: the sample batching rule of `Model/VmapRule.lean` is lane-wise (`rule_lanewise`).
  The lanes enter the broadcast of the parameter shapes as one more leading axis (`bshape_moved`),
  binding commutes with any per-argument transformation (`bindArgs_map`), and a moved argument read
  at broadcast index `lane :: b` is the lane's slice read at `b` (`moveArg_get`).
-/
namespace Genjax.VmapRule

/-! ### inserting the lane index into a position -/

theorem drop_insertIdx_self {γ : Type} (x : γ) : ∀ (k : Nat) (p : List γ), k ≤ p.length →
    (p.insertIdx k x).drop k = x :: p.drop k
  | 0, _, _ => rfl
  | _ + 1, [], h => absurd h (Nat.not_succ_le_zero _)
  | k + 1, _ :: p, h => drop_insertIdx_self x k p (Nat.le_of_succ_le_succ h)

theorem insertIdx_inj {γ : Type} {k : Nat} {p p' : List γ} {x x' : γ} (hk : k ≤ p.length)
    (hk' : k ≤ p'.length) (h : p.insertIdx k x = p'.insertIdx k x') : x = x' ∧ p = p' := by
  have h1 := congrArg (·[k]?) h
  have h2 := congrArg (·.eraseIdx k) h
  simp only [List.getElem?_insertIdx_self, hk, hk', if_true, Option.some.injEq,
    List.eraseIdx_insertIdx_self] at h1 h2
  exact ⟨h1, h2⟩

theorem insertIdx_append_length {γ : Type} (x : γ) : ∀ (l₁ l₂ : List γ),
    (l₁ ++ l₂).insertIdx l₁.length x = l₁ ++ x :: l₂
  | [], _ => rfl
  | a :: l₁, l₂ => congrArg (a :: ·) (insertIdx_append_length x l₁ l₂)

theorem forall₂_insertIdx {γ δ : Type} {R : γ → δ → Prop} {x : γ} {y : δ} (hxy : R x y) :
    ∀ (k : Nat) {p : List γ} {sh : List δ}, List.Forall₂ R p sh →
      List.Forall₂ R (p.insertIdx k x) (sh.insertIdx k y)
  | 0, _, _, h => .cons hxy h
  | _ + 1, _, _, .nil => .nil
  | k + 1, _, _, .cons hab h => .cons hab (forall₂_insertIdx hxy k h)

/-! ### broadcasting -/

theorem bcPadded_length {a b c : List Nat} (h : bcPadded a b = some c) : c.length = b.length := by
  induction a generalizing b c with
  | nil => cases b <;> cases h; rfl
  | cons x xs ih =>
    cases b with
    | nil => cases h
    | cons y ys =>
      rw [bcPadded] at h
      split at h
      · next hzs => cases h; exact congrArg (· + 1) (ih hzs)
      · cases h

theorem bcAll_length {rows : List (List Nat)} {init B : List Nat} (h : bcAll rows init = some B) :
    B.length = init.length := by
  induction rows generalizing B with
  | nil => cases h; rfl
  | cons s rows ih =>
      obtain ⟨acc, hacc, h⟩ := Option.bind_eq_some_iff.1 h
      exact (bcPadded_length h).trans (ih hacc)

theorem maxRank_le_iff {shapes : List (List Nat)} {r : Nat} :
    maxRank shapes ≤ r ↔ ∀ s ∈ shapes, s.length ≤ r := by
  induction shapes with
  | nil => exact ⟨fun _ _ h => (nomatch h), fun _ => Nat.zero_le _⟩
  | cons s shapes ih =>
      rw [show maxRank (s :: shapes) = max s.length (maxRank shapes) from rfl, Nat.max_le, ih,
        List.forall_mem_cons]

theorem maxRank_eq {shapes : List (List Nat)} {r : Nat} (h : ∀ s ∈ shapes, s.length ≤ r)
    (hex : ∃ s ∈ shapes, s.length = r) : maxRank shapes = r := by
  obtain ⟨s, hs, rfl⟩ := hex
  exact Nat.le_antisymm (maxRank_le_iff.2 h) (maxRank_le_iff.1 (Nat.le_refl _) s hs)

theorem bc1_lane (n : Nat) (a b : Bool) :
    bc1 (if a then n else 1) (if b then n else 1) = some (if a || b then n else 1) := by
  cases a <;> cases b <;> simp [bc1]
  omega

theorem bcAll_lanes {γ : Type} (n : Nat) (m : γ → Bool) (t : γ → List Nat) (l : List γ)
    (init : List Nat) :
    bcAll (l.map fun x => (if m x then n else 1) :: t x) (1 :: init) =
      (bcAll (l.map t) init).map ((if l.any m then n else 1) :: ·) := by
  induction l with
  | nil => rfl
  | cons x l ih =>
      simp only [bcAll, List.map_cons, List.foldr_cons, List.any_cons] at ih ⊢
      rw [ih]
      cases List.foldr (fun s acc => acc.bind (bcPadded s)) (some init) (l.map t) with
      | none => rfl
      | some B =>
          simp only [Option.map_some, Option.bind_some, bcPadded, bc1_lane]
          cases bcPadded (t x) B <;> rfl

theorem pad_succ {r : Nat} {s : List Nat} (h : s.length ≤ r) : pad (r + 1) s = 1 :: pad r s := by
  simp [pad, Nat.succ_sub h, List.replicate_succ]

theorem pad_self (s : List Nat) : pad s.length s = s := by simp [pad]

/-- `hal`: all mapped parameters have per-lane rank `r` and no un-mapped one has a higher rank -/
theorem bshape_moved {γ : Type} (n r : Nat) (mapped : γ → Bool) (lane moved : γ → List Nat)
    (as : List γ) (B : List Nat)
    (hmv : ∀ a ∈ as, moved a = if mapped a then n :: lane a else lane a)
    (hal : ∀ a ∈ as, (mapped a = true → (lane a).length = r) ∧ (lane a).length ≤ r)
    (hex : ∃ a ∈ as, mapped a = true)
    (hB : bshape (as.map lane) = some B) :
    bshape (as.map moved) = some (n :: B) ∧ B.length = r := by
  obtain ⟨a0, ha0, hm0⟩ := hex
  have hr : maxRank (as.map lane) = r :=
    maxRank_eq (List.forall_mem_map.2 fun a ha => (hal a ha).2)
      ⟨_, List.mem_map_of_mem ha0, (hal a0 ha0).1 hm0⟩
  have hr' : maxRank (as.map moved) = r + 1 := by
    refine maxRank_eq (List.forall_mem_map.2 fun a ha => ?_) ⟨_, List.mem_map_of_mem ha0, ?_⟩
    · rw [hmv a ha]
      split
      · next hm => exact Nat.succ_le_succ (Nat.le_of_eq ((hal a ha).1 hm))
      · exact Nat.le_succ_of_le (hal a ha).2
    · rw [hmv a0 ha0, if_pos hm0]
      exact congrArg (· + 1) ((hal a0 ha0).1 hm0)
  have hpad : (as.map moved).map (pad (r + 1)) =
      as.map fun a => (if mapped a then n else 1) :: pad r (lane a) := by
    rw [List.map_map]
    refine List.map_congr_left fun a ha => ?_
    obtain ⟨h1, h2⟩ := hal a ha
    simp only [Function.comp, hmv a ha]
    by_cases hm : mapped a = true
    · rw [if_pos hm, if_pos hm, ← h1 hm]
      exact (pad_self (n :: lane a)).trans (congrArg _ (pad_self _).symm)
    · rw [if_neg hm, if_neg hm]
      exact pad_succ h2
  rw [bshape, hr, List.map_map] at hB
  rw [bshape, hr', hpad, List.replicate_succ, bcAll_lanes, List.any_eq_true.2 ⟨a0, ha0, hm0⟩]
  exact ⟨by rw [show (fun a => pad r (lane a)) = pad r ∘ lane from rfl, hB]; rfl,
    (bcAll_length hB).trans List.length_replicate⟩

/-! ### binding -/

section Bind
variable {ν γ δ : Type} [DecidableEq ν]

theorem lookup_map_snd (f : γ → δ) (nm : ν) (kws : List (ν × γ)) :
    (kws.map fun kw => (kw.1, f kw.2)).lookup nm = (kws.lookup nm).map f := by
  induction kws with
  | nil => rfl
  | cons kw kws ih =>
      obtain ⟨k, v⟩ := kw
      simp only [List.map_cons, List.lookup_cons, ih]
      cases nm == k <;> rfl

/-- used with `f` = moving an axis and `f` = slicing a lane -/
theorem bindArgs_map (f : γ → δ) (sig : List ν) (pos : List γ) (kws : List (ν × γ)) :
    bindArgs sig (pos.map f) (kws.map fun kw => (kw.1, f kw.2)) =
      (bindArgs sig pos kws).map (List.map (Option.map f)) := by
  unfold bindArgs
  simp only [List.length_map, List.all_map, Function.comp_def]
  split
  · simp [lookup_map_snd, Function.comp_def]
  · rfl

theorem lookup_mem_map_snd {nm : ν} {kws : List (ν × γ)} {a : γ} (h : kws.lookup nm = some a) :
    a ∈ kws.map (·.2) := by
  obtain ⟨l₁, l₂, rfl, -⟩ := List.lookup_eq_some_iff.1 h
  exact List.mem_map.2 ⟨(nm, a), List.mem_append_right _ List.mem_cons_self, rfl⟩

theorem lookup_of_mem {kws : List (ν × γ)} (hnd : (kws.map (·.1)).Nodup) {kw : ν × γ}
    (h : kw ∈ kws) : kws.lookup kw.1 = some kw.2 := by
  obtain ⟨l₁, l₂, rfl⟩ := List.append_of_mem h
  refine List.lookup_eq_some_iff.2 ⟨l₁, l₂, rfl, fun p hp => ?_⟩
  rw [List.map_append, List.map_cons, List.nodup_append] at hnd
  exact bne_iff_ne.2 fun e => hnd.2.2 _ (List.mem_map_of_mem hp) _ List.mem_cons_self e.symm

theorem bindArgs_mem {sig : List ν} {pos : List γ} {kws : List (ν × γ)} {ps : List (Option γ)}
    (h : bindArgs sig pos kws = some ps) {a : γ} (ha : some a ∈ ps) :
    a ∈ pos ++ kws.map (·.2) := by
  unfold bindArgs at h
  split at h <;> cases h
  rcases List.mem_append.1 ha with ha | ha
  · obtain ⟨b, hb, hab⟩ := List.mem_map.1 ha
    exact List.mem_append_left _ (Option.some.inj hab ▸ hb)
  · obtain ⟨nm, _, hnm⟩ := List.mem_map.1 ha
    exact List.mem_append_right _ (lookup_mem_map_snd hnm)

theorem mem_bindArgs {sig : List ν} {pos : List γ} {kws : List (ν × γ)} {ps : List (Option γ)}
    (h : bindArgs sig pos kws = some ps) (hnd : (kws.map (·.1)).Nodup) {a : γ}
    (ha : a ∈ pos ++ kws.map (·.2)) : some a ∈ ps := by
  unfold bindArgs at h
  split at h <;> cases h
  next hc =>
  rcases List.mem_append.1 ha with ha | ha
  · exact List.mem_append_left _ (List.mem_map_of_mem ha)
  · obtain ⟨kw, hkw, rfl⟩ := List.mem_map.1 ha
    exact List.mem_append_right _ (List.mem_map.2
      ⟨kw.1, List.contains_iff_mem.1 (List.all_eq_true.1 hc.2 kw hkw), lookup_of_mem hnd hkw⟩)

end Bind

/-! ### one argument: the moved array read at (lane, b) = the lane's slice read at b -/

section Args
variable {α : Type}

theorem sliceArg_shape (i : Nat) (a : BArg α) : (sliceArg i a).shape = laneShape a := by
  unfold sliceArg laneShape; cases a.bdim <;> rfl

theorem moveArg_shape_mapped {arr : Arr α} {d n : Nat} (hv : arr.shape[d]? = some n) :
    (moveArg Cfg.spec ⟨arr, some d⟩).shape = n :: arr.shape.eraseIdx d := by
  simp only [moveArg, Cfg.spec, Arr.moveFront, List.getD_eq_getElem?_getD, hv]; rfl

theorem moveArg_shape {a : BArg α} {n : Nat} (hv : ∀ d, a.bdim = some d → a.arr.shape[d]? = some n) :
    (moveArg Cfg.spec a).shape = if a.bdim.isSome then n :: laneShape a else laneShape a := by
  obtain ⟨arr, _ | d⟩ := a
  · rfl
  · exact moveArg_shape_mapped (hv d rfl)

theorem bidx_cons_of_le {sh b : List Nat} (i : Nat) (h : sh.length ≤ b.length) :
    bidx sh (i :: b) = bidx sh b := by
  simp only [bidx, List.length_cons, Nat.succ_sub h, List.drop_succ_cons]

theorem bidx_cons_cons {sh b : List Nat} (m i : Nat) (h : sh.length = b.length) :
    bidx (m :: sh) (i :: b) = (if m = 1 then 0 else i) :: bidx sh b := by
  simp [bidx, h]

theorem moveArg_get (a : BArg α) (n r i : Nat) (b : List Nat) (hi : i < n)
    (hv : ∀ d, a.bdim = some d → a.arr.shape[d]? = some n)
    (hr : (a.bdim.isSome → (laneShape a).length = r) ∧ (laneShape a).length ≤ r)
    (hb : b.length = r) :
    (moveArg Cfg.spec a).get (bidx (moveArg Cfg.spec a).shape (i :: b)) =
      (sliceArg i a).get (bidx (sliceArg i a).shape b) := by
  obtain ⟨arr, _ | d⟩ := a
  · exact congrArg arr.get (bidx_cons_of_le i (hb ▸ hr.2))
  · have hi' : (if n = 1 then 0 else i) = i := by
      split
      · next h => exact (Nat.lt_one_iff.1 (h ▸ hi)).symm
      · rfl
    rw [moveArg_shape_mapped (hv d rfl),
      bidx_cons_cons (sh := arr.shape.eraseIdx d) n i ((hr.1 rfl).trans hb.symm), hi']
    rfl

theorem paramsAt_moved (ps : List (Option (BArg α))) (n r i : Nat) (b : List Nat) (hi : i < n)
    (hv : ∀ a, some a ∈ ps → ∀ d, a.bdim = some d → a.arr.shape[d]? = some n)
    (hr : ∀ a, some a ∈ ps → (a.bdim.isSome → (laneShape a).length = r) ∧ (laneShape a).length ≤ r)
    (hb : b.length = r) :
    paramsAt (ps.map (Option.map (moveArg Cfg.spec))) (i :: b) =
      paramsAt (ps.map (Option.map (sliceArg i))) b := by
  simp only [paramsAt, List.map_map]
  refine List.map_congr_left fun p hp => ?_
  cases p with
  | none => rfl
  | some a => exact congrArg some (moveArg_get a n r i b hi (hv a hp) (hr a hp) hb)

end Args

/-! ### the rule -/

section Main
variable {ν α β κ : Type} [DecidableEq ν]

theorem spec_kw : Cfg.spec.kwargsAsKeywords = true := rfl
theorem spec_ax : Cfg.spec.axisAfterSampleShape = true := rfl
theorem spec_mv : Cfg.spec.moveMappedAxes = true := rfl

theorem draw_map (site : κ → List Nat → List (Option α) → β) (sig : List ν) (key : κ)
    (f : BArg α → Arr α) (pos : List (BArg α)) (kws : List (ν × BArg α)) (ss : List Nat)
    {ps : List (Option (BArg α))} {B : List Nat} (hps : bindArgs sig pos kws = some ps)
    (hB : bshape ((ps.filterMap id).map fun a => (f a).shape) = some B) :
    draw site sig key (pos.map f) (kws.map fun kw => (kw.1, f kw.2)) ss =
      some ⟨ss ++ B, fun p => site key p (paramsAt (ps.map (Option.map f)) (p.drop ss.length))⟩ := by
  have : ((ps.map (Option.map f)).filterMap fun p => p.map (·.shape)) =
      (ps.filterMap id).map fun a => (f a).shape := by
    rw [List.filterMap_map, List.map_filterMap]
    exact List.filterMap_congr fun p _ => by cases p <;> rfl
  simp only [draw, bindArgs_map, hps, Option.map_some, this, hB]

omit [DecidableEq ν] in
theorem staticDimLength_none {args : List (BArg α)} (h : staticDimLength args = none) :
    ∀ a ∈ args, a.bdim = none :=
  fun a ha => Option.map_eq_none_iff.1 (List.findSome?_eq_none_iff.1 h a ha)

omit [DecidableEq ν] in
theorem staticDimLength_some {args : List (BArg α)} {m : Nat} (h : staticDimLength args = some m) :
    ∃ a ∈ args, ∃ d, a.bdim = some d ∧ a.arr.shape.getD d 0 = m := by
  obtain ⟨a, ha, hm⟩ := List.exists_of_findSome?_eq_some h
  exact ⟨a, ha, Option.map_eq_some_iff.1 hm⟩

omit [DecidableEq ν] in
/-- `s.Valid n`: an argument list `jax.vmap` accepts -/
theorem staticDimLength_of_valid {s : Site ν α} {n m : Nat} (hv : s.Valid n)
    (h : staticDimLength s.flat = some m) : m = n := by
  obtain ⟨a, ha, d, hb, hm⟩ := staticDimLength_some h
  rw [List.getD_eq_getElem?_getD, hv.1 a ha d hb] at hm
  exact hm.symm

omit [DecidableEq ν] in
theorem laneAxis_le (s : Site ν α) : laneAxis s ≤ s.sampleShape.length := by
  unfold laneAxis
  split
  · exact Nat.le_refl _
  · exact Nat.zero_le _

/-- `jax.vmap` moves the axis `A` the rule declares to the front -/
theorem vmapSite_of_rule {site : κ → List Nat → List (Option α) → β} {key : κ} {s : Site ν α}
    {n A : Nat} {sh : List Nat} {res : Arr β} (hA : A ≤ sh.length)
    (hr : rule Cfg.spec site key s n = some (res, some A)) (hsh : res.shape = sh.insertIdx A n) :
    ∃ R, vmapSite Cfg.spec site key s n = some R ∧ R.shape = n :: sh ∧
      ∀ i p, R.get (i :: p) = res.get (p.insertIdx A i) := by
  refine ⟨res.moveFront A, ?_, ?_, fun _ _ => rfl⟩
  · simp only [vmapSite, hr, Option.bind_some, vmapOut, hsh, List.length_insertIdx, if_pos hA]
    rw [if_pos (Nat.lt_succ_of_le hA)]
  · simp only [Arr.moveFront, hsh, List.getD_eq_getElem?_getD, List.getElem?_insertIdx_self,
      if_pos hA, Option.getD_some, List.eraseIdx_insertIdx_self]

/-- the rule is lane-wise.  First conjunct: the sampler is called once and the array it returns has
    the lanes at the axis the rule declares.  Second: lane `i` of the vectorised site (`Cfg.spec`) is
    what the un-mapped site draws from lane `i`'s parameter slices, at the positions
    `p.insertIdx (laneAxis s) i` of the one call.  `LaneAligned`: the mapped arguments all have the
    maximal per-lane rank. -/
theorem rule_lanewise (site : κ → List Nat → List (Option α) → β) (key : κ) (s : Site ν α)
    (n : Nat) (B : List Nat) (hv : s.Valid n) (hal : s.LaneAligned)
    (hB : laneBatchShape s = some B) :
    (n ≠ 0 → ∃ res, rule Cfg.spec site key s n = some (res, some (laneAxis s)) ∧
      res.shape = (s.sampleShape ++ B).insertIdx (laneAxis s) n) ∧
    ∃ R, vmapSite Cfg.spec site key s n = some R ∧ R.shape = n :: (s.sampleShape ++ B) ∧
      ∀ i, i < n → ∃ L,
        laneDraw (fun k p v => site k (p.insertIdx (laneAxis s) i) v) key s i = some L ∧
        L.shape = s.sampleShape ++ B ∧
        ∀ p, p.length = (s.sampleShape ++ B).length → R.get (i :: p) = L.get p := by
  obtain ⟨ps, hps, hBs⟩ := Option.bind_eq_some_iff.1 hB
  replace hBs : bshape ((ps.filterMap id).map laneShape) = some B := by
    rw [List.map_filterMap]; exact hBs
  have hmem : ∀ a, some a ∈ ps → a ∈ s.flat := fun a ha => bindArgs_mem hps ha
  have hid : ∀ {a}, a ∈ ps.filterMap id → some a ∈ ps := fun ha => by simpa using ha
  have hlane : ∀ (site' : κ → List Nat → List (Option α) → β) (i : Nat),
      laneDraw site' key s i = some ⟨s.sampleShape ++ B, fun p => site' key p
        (paramsAt (ps.map (Option.map (sliceArg i))) (p.drop s.sampleShape.length))⟩ :=
    fun site' i => draw_map site' s.sig key (sliceArg i) s.pos s.kws _ hps
      (by simpa only [sliceArg_shape] using hBs)
  -- the one call of the rule, once the moved shapes are known to broadcast
  have hrule : ∀ {B'}, bshape ((ps.filterMap id).map fun a => (moveArg Cfg.spec a).shape) = some B' →
      rule Cfg.spec site key s n = some (⟨newSampleShape s n ++ B', fun p => site key p
        (paramsAt (ps.map (Option.map (moveArg Cfg.spec))) (p.drop (newSampleShape s n).length))⟩,
        outAxis Cfg.spec s n) := fun h => by
    simp only [rule, spec_kw, if_true, draw_map site s.sig key (moveArg Cfg.spec) s.pos s.kws _ hps h,
      Option.map_some]
  cases hn : staticDimLength s.flat with
  | none =>
      -- nothing is mapped: moving and slicing leave the arguments alone, the lanes go in front
      have hmv : ∀ i a, some a ∈ ps → moveArg Cfg.spec a = sliceArg i a := fun i a ha => by
        simp only [moveArg, sliceArg, staticDimLength_none hn a (hmem a ha)]
      have hpm : ∀ i, ps.map (Option.map (moveArg Cfg.spec)) = ps.map (Option.map (sliceArg i)) :=
        fun i => List.map_congr_left fun p hp => by
          cases p with
          | none => rfl
          | some a => exact congrArg some (hmv i a hp)
      have hr := hrule (B' := B) (by
        rw [← hBs]
        exact congrArg bshape (List.map_congr_left fun a ha => hmv 0 a (hid ha) ▸ sliceArg_shape 0 a))
      have hax : laneAxis s = 0 := by simp only [laneAxis, hn]
      simp only [newSampleShape, outAxis, hn] at hr
      by_cases hn0 : n = 0
      · subst hn0
        refine ⟨fun h => absurd rfl h, _, by simp only [vmapSite, hr]; rfl, rfl,
          fun i hi => absurd hi (Nat.not_lt_zero i)⟩
      · simp only [ne_eq, hn0, not_false_eq_true, if_true] at hr
        obtain ⟨R, hR, hRs, hRg⟩ := vmapSite_of_rule (sh := s.sampleShape ++ B) (Nat.zero_le _) hr rfl
        rw [hax]
        refine ⟨fun _ => ⟨_, hr, rfl⟩, R, hR, hRs, fun i _ => ⟨_, hlane _ i, rfl, fun p _ => ?_⟩⟩
        rw [hRg, ← hpm i]
        rfl
  | some m =>
      -- lanes come with the parameters: they sit behind the site's own sample_shape
      obtain ⟨a0, ha0, d0, hd0, -⟩ := staticDimLength_some hn
      have hb0 : a0.bdim.isSome := hd0 ▸ rfl
      have hrk : ∀ a ∈ s.flat, (a.bdim.isSome → (laneShape a).length = (laneShape a0).length) ∧
          (laneShape a).length ≤ (laneShape a0).length := fun a ha =>
        ⟨fun hb => Nat.le_antisymm (hal a0 ha0 hb0 a ha) (hal a ha hb a0 ha0), hal a0 ha0 hb0 a ha⟩
      obtain ⟨hBm, hBl⟩ := bshape_moved n (laneShape a0).length (·.bdim.isSome) laneShape
        (fun a => (moveArg Cfg.spec a).shape) (ps.filterMap id) B
        (fun a ha => moveArg_shape (hv.1 a (hmem a (hid ha))))
        (fun a ha => hrk a (hmem a (hid ha)))
        ⟨a0, by simpa using mem_bindArgs hps hv.2 ha0, hb0⟩ hBs
      have hr := hrule hBm
      have hax : laneAxis s = s.sampleShape.length := by simp only [laneAxis, hn]
      simp only [newSampleShape, outAxis, hn, spec_ax, if_true] at hr
      have hsh := (insertIdx_append_length n s.sampleShape B).symm
      obtain ⟨R, hR, hRs, hRg⟩ := vmapSite_of_rule (sh := s.sampleShape ++ B)
        (by rw [List.length_append]; exact Nat.le_add_right _ _) hr hsh
      rw [hax]
      refine ⟨fun _ => ⟨_, hr, hsh⟩, R, hR, hRs, fun i hi => ⟨_, hlane _ i, rfl, fun p hp => ?_⟩⟩
      rw [List.length_append] at hp
      rw [hRg]
      dsimp only
      rw [drop_insertIdx_self i _ p (hp ▸ Nat.le_add_right _ _),
        paramsAt_moved ps n _ i _ hi (fun a ha => hv.1 a (hmem a ha)) (fun a ha => hrk a (hmem a ha))
          (by rw [List.length_drop, hp, hBl]; exact Nat.add_sub_cancel_left ..)]

end Main

section Bools
variable {ν α : Type}

theorem alignedB_iff (s : Site ν α) : s.alignedB = true ↔ s.LaneAligned := by
  simp only [Site.alignedB, Site.LaneAligned, List.all_eq_true, Bool.or_eq_true, Bool.not_eq_true',
    decide_eq_true_eq]
  refine forall₂_congr fun a _ => ?_
  rw [imp_iff_not_or, Bool.not_eq_true]

theorem validB_iff [DecidableEq ν] (s : Site ν α) (n : Nat) : s.validB n = true ↔ s.Valid n := by
  simp only [Site.validB, Site.Valid, Bool.and_eq_true, List.all_eq_true, decide_eq_true_eq]
  refine and_congr (forall₂_congr fun a _ => ?_) Iff.rfl
  obtain ⟨arr, _ | d⟩ := a
  · exact ⟨fun _ _ h => (nomatch h), fun _ => rfl⟩
  · exact ⟨fun h _ e => Option.some.inj e ▸ beq_iff_eq.1 h, fun h => beq_iff_eq.2 (h d rfl)⟩

theorem hyps_of_eval [DecidableEq ν] {s : Site ν α} {n : Nat} {B : List Nat}
    (h : s.validB n = true ∧ s.alignedB = true ∧ laneBatchShape s = some B) :
    s.Valid n ∧ s.LaneAligned ∧ laneBatchShape s = some B :=
  ⟨(validB_iff s n).1 h.1, (alignedB_iff s).1 h.2.1, h.2.2⟩

end Bools

/-! ### concrete instances (non-vacuity and the counterexamples) -/
namespace Ex

def v2 : Arr Nat := Arr.ofFlat [2] [1, 2] 0
def v3 : Arr Nat := Arr.ofFlat [3] [1, 2, 3] 0
def m22 : Arr Nat := Arr.ofFlat [2, 2] [11, 12, 21, 22] 0
def w22 : Arr Nat := Arr.ofFlat [2, 2] [51, 52, 61, 62] 0
def m23 : Arr Nat := Arr.ofFlat [2, 3] [11, 12, 13, 21, 22, 23] 0
def m32 : Arr Nat := Arr.ofFlat [3, 2] [11, 12, 21, 22, 31, 32] 0
def m33 : Arr Nat := Arr.ofFlat [3, 3] [11, 12, 13, 21, 22, 23, 31, 32, 33] 0

/-- a site inside the region of `rule_lanewise`: signature (0, 1, 2), own `sample_shape=(2,)`, one
    positional parameter mapped along axis 1 (`in_axes=1`, per-lane shape (2,)), parameter 2 given
    BY KEYWORD and mapped along axis 0 (per-lane shape (2,)), a constant keyword parameter 1; 3 lanes -/
def mixed : Site Nat Nat :=
  ⟨[0, 1, 2], [2], [⟨m23, some 1⟩], [(1, ⟨Arr.ofFlat [] [7] 0, none⟩), (2, ⟨m32, some 0⟩)]⟩

/-- `bernoulli(probs=p)`: signature (logits = 0, probs = 1), only `probs` given, by keyword -/
def kwOnly : Site Nat Nat := ⟨[0, 1], [], [], [(1, ⟨v2, some 0⟩)]⟩

/-- two vector-per-lane parameters, the first mapped with `in_axes=1`, the second with `in_axes=0` -/
def axis1 : Site Nat Nat := ⟨[0, 1], [], [⟨m22, some 1⟩, ⟨w22, some 0⟩], []⟩

/-- not `LaneAligned`: per lane a scalar `loc` and a vector `scale` of length 3; 3 lanes -/
def rank33 : Site Nat Nat := ⟨[0, 1], [], [⟨v3, some 0⟩, ⟨m33, some 0⟩], []⟩
/-- … and a vector `scale` of length 2; 3 lanes -/
def rank32 : Site Nat Nat := ⟨[0, 1], [], [⟨v3, some 0⟩, ⟨m32, some 0⟩], []⟩

theorem mixed_hyps : mixed.Valid 3 ∧ mixed.LaneAligned ∧ laneBatchShape mixed = some [2] :=
  hyps_of_eval (by decide +kernel)

theorem axis1_hyps : axis1.Valid 2 ∧ axis1.LaneAligned ∧ laneBatchShape axis1 = some [2] :=
  hyps_of_eval (by decide +kernel)

theorem kwOnly_hyps : kwOnly.Valid 2 ∧ kwOnly.LaneAligned ∧ laneBatchShape kwOnly = some [] :=
  hyps_of_eval (by decide +kernel)

end Ex

end Genjax.VmapRule

import GenjaxModel.Proofs.GfiDistSupp
/-!
  The hypothesis of the law at Cond nodes (`GF.LawHyp`, `GF.Total`) from the decidable `GF.condOK`
  and normalisation of the primitives; the law of `simulate` in the forms used by `Props/C01.lean`;
  instances for the non-vacuity examples (exact rational arithmetic).
-/
namespace Genjax
open Smc Smc.FinDist

mutual
  /-- every Cond of the program has branches with the same static choice-map skeleton, both free of
      address collisions -/
  def GF.condOK : GF → Bool
    | .dist _ => true
    | .fn body => body.condOK
    | .vmap g _ _ => g.condOK
    | .scan g _ => g.condOK
    | .cond t f => t.condOK && f.condOK && decide (t.skel = f.skel) && t.noCollide && f.noCollide
  def Body.condOK : Body → Bool
    | .ret _ => true
    | .call _ g _ rest => g.condOK && rest.condOK
end

theorem GF.condOK_cond {t f : GF} (h : (GF.cond t f).condOK = true) :
    t.condOK = true ∧ f.condOK = true ∧ t.skel = f.skel ∧ t.noCollide = true ∧ f.noCollide = true := by
  obtain ⟨h, hnf⟩ := Bool.and_eq_true_iff.mp h
  obtain ⟨h, hnt⟩ := Bool.and_eq_true_iff.mp h
  obtain ⟨h, hsk⟩ := Bool.and_eq_true_iff.mp h
  obtain ⟨hct, hcf⟩ := Bool.and_eq_true_iff.mp h
  exact ⟨hct, hcf, of_decide_eq_true hsk, hnt, hnf⟩

theorem condFree_condOK_aux :
    (∀ g : GF, g.condFree = true → g.condOK = true) ∧ ∀ b : Body, b.condFree = true → b.condOK = true := by
  refine GF.rec_both (fun _ _ => rfl) (fun _ ih h => ih h) (fun _ _ _ ih h => ih h)
    (fun _ _ ih h => ih h) (fun _ _ _ _ h => Bool.noConfusion h) (fun _ _ => rfl)
    fun _ _ _ _ ihg ihr h => ?_
  have h := Bool.and_eq_true_iff.mp h
  exact Bool.and_eq_true_iff.mpr ⟨ihg h.1, ihr h.2⟩

theorem condFree_condOK_gf : (g : GF) → g.condFree = true → g.condOK = true :=
  condFree_condOK_aux.1

theorem condFree_condOK_body : (b : Body) → b.condFree = true → b.condOK = true :=
  condFree_condOK_aux.2

/-! ## `condOK` programs have a static skeleton -/

theorem skelLanes_isSome (s : CM) : ∀ n, (skelLanes n (some s)).isSome
  | 0 => rfl
  | n + 1 => by
      obtain ⟨r, hr⟩ := Option.isSome_iff_exists.mp (skelLanes_isSome s n)
      simp [skelLanes, hr]

theorem condOK_skel_both :
    (∀ g : GF, g.condOK = true → g.skel.isSome) ∧ ∀ b : Body, b.condOK = true → b.skel.isSome := by
  refine GF.rec_both (fun _ _ => rfl) ?_ ?_ ?_ ?_ (fun _ _ => rfl) ?_
  · intro body ih h
    simp only [GF.skel, Option.isSome_map]
    exact ih h
  · intro g _ n ih h
    obtain ⟨s, hs⟩ := Option.isSome_iff_exists.mp (ih h)
    simp only [GF.skel, Option.isSome_map, hs]
    exact skelLanes_isSome s n
  · intro g n ih h
    obtain ⟨s, hs⟩ := Option.isSome_iff_exists.mp (ih h)
    simp only [GF.skel, Option.isSome_map, hs]
    exact skelLanes_isSome s n
  · intro t f iht _ h
    obtain ⟨hct, -, hsk, -, -⟩ := GF.condOK_cond h
    obtain ⟨s, hs⟩ := Option.isSome_iff_exists.mp (iht hct)
    simp only [GF.skel, ← hsk, hs, Option.bind_eq_bind, Option.bind_some,
      CM.mergeCheck_same true s s rfl]
    rfl
  · intro _ g _ rest ihg ihr h
    simp only [Body.condOK, Bool.and_eq_true] at h
    obtain ⟨s, hs⟩ := Option.isSome_iff_exists.mp (ihg h.1)
    obtain ⟨r, hr⟩ := Option.isSome_iff_exists.mp (ihr h.2)
    simp [Body.skel, hs, hr]

theorem condOK_skel_gf : (g : GF) → g.condOK = true → g.skel.isSome := condOK_skel_both.1

theorem condOK_skel_body : (b : Body) → b.condOK = true → b.skel.isSome := condOK_skel_both.2

theorem Option.isSome_bind_of {α β : Type} {o : Option α} {k : α → Option β} (h : o.isSome)
    (hk : ∀ a, (k a).isSome) : (o.bind k).isSome := by
  cases o with
  | none => cases h
  | some a => exact hk a

section Defined
variable {K : Type} [Field K] (pd : PD K)

theorem assessP_defined_aux :
    (∀ g : GF, g.noCollide = true → g.condOK = true →
      ∀ (x : CM) (args : List Val), g.skel = some x.skel → (g.assessP pd x args).isSome) ∧
    ∀ b : Body, b.noCollide = true → b.condOK = true →
      b.addrs.Nodup → ∀ (X rem : CML) (env : List Val) (seen : List String),
      b.skel = some rem.skel → (∀ a, seen.contains a = false → X.find? a = rem.find? a) →
      (∀ a ∈ b.addrs, seen.contains a = false) → (b.assessP pd X env seen).isSome := by
  refine GF.rec_both ?_ ?_ ?_ ?_ ?_ ?_ ?_
  · intro d _ _ x args hs
    obtain ⟨v0, rfl⟩ := CM.skel_leaf (Option.some.inj hs)
    rfl
  · intro body ih hn hc x args hs
    have hn := Bool.and_eq_true_iff.mp hn
    obtain ⟨X, rfl, hbs⟩ := GF.skel_fn hs
    exact ih hn.2 hc (of_decide_eq_true hn.1) X X args [] hbs (fun _ _ => rfl) fun _ _ => rfl
  · intro g axes n ih hn hc x args hs
    obtain ⟨l, rfl, -, rfl, hl3⟩ := skelLanes_lanes hs
    have hlen : (lenIs l.toList l.toList.length).isSome :=
      congrArg Option.isSome ((lenIs_eq_some_iff (u := ())).mpr rfl)
    exact Option.isSome_bind_of hlen fun _ =>
      Option.isSome_bind_of (forLanes_isSome (fun _ y hy => ih hn hc y _ (hl3 y hy)) 0) fun _ => rfl
  · intro g n ih hn hc x args hs
    obtain ⟨l, rfl, -, rfl, hl3⟩ := skelLanes_lanes hs
    have hlen : (lenIs l.toList l.toList.length).isSome :=
      congrArg Option.isSome ((lenIs_eq_some_iff (u := ())).mpr rfl)
    exact Option.isSome_bind_of hlen fun _ => Option.isSome_bind_of (forSteps_isSome
      (fun _ _ y hy => Option.isSome_bind_of (ih hn hc y _ (hl3 y hy)) fun _ => rfl) _ 0)
      fun _ => rfl
  · intro t f iht ihf hn hc x args hs
    have hn := Bool.and_eq_true_iff.mp hn
    obtain ⟨hct, hcf, hsk, -, -⟩ := GF.condOK_cond hc
    have hts := GF.skel_cond hsk hs
    exact Option.isSome_bind_of (iht hn.1 hct x (args.drop 1) hts) fun _ =>
      Option.isSome_bind_of (ihf hn.2 hcf x (args.drop 1) (hsk ▸ hts)) fun _ => rfl
  · intro e _ _ _ X rem env seen _ _ _
    rfl
  · intro addr g es rest ihg ihr hn hc hnd X rem env seen hs hfind hfresh
    have hn := Bool.and_eq_true_iff.mp hn
    have hc := Bool.and_eq_true_iff.mp hc
    have hnd := List.nodup_cons.mp hnd
    obtain ⟨c, rem', rfl, hgs, hrs⟩ := Body.skel_call hs
    have hseen := hfresh addr List.mem_cons_self
    dsimp only [Body.assessP]
    rw [hseen, if_neg Bool.false_ne_true, hfind addr hseen, CML.find?_cons_self]
    refine Option.isSome_bind_of (ihg hn.1 hc.1 c (es.map (·.eval env)) hgs) fun p =>
      Option.isSome_bind_of (ihr hn.2 hc.2 hnd.2 X rem' (env ++ [p.2]) (addr :: seen) hrs
        (CML.find?_step hfind) fun a ha => ?_) fun _ => rfl
    rw [List.contains_cons, hfresh a (List.mem_cons_of_mem _ ha), Bool.or_false]
    exact beq_eq_false_iff_ne.mpr fun e => hnd.1 (e ▸ ha)

theorem assessP_defined_body : (b : Body) → b.noCollide = true → b.condOK = true →
      b.addrs.Nodup → ∀ (X rem : CML) (env : List Val) (seen : List String),
      b.skel = some rem.skel → (∀ a, seen.contains a = false → X.find? a = rem.find? a) →
      (∀ a ∈ b.addrs, seen.contains a = false) → (b.assessP pd X env seen).isSome :=
  (assessP_defined_aux pd).2

theorem assessP_defined (g : GF) (hn : g.noCollide = true) (hc : g.condOK = true) (x : CM)
    (args : List Val) (hs : g.skel = some x.skel) : (g.assessP pd x args).isSome :=
  (assessP_defined_aux pd).1 g hn hc x args hs

end Defined

section Total
variable {K : Type} [Field K] {R : Type} [AddCommGroup R] (pd : PD K) (P : Prims R)

theorem GF.total_of_noCollide_condOK (hnorm : pd.Normalised) (g : GF) (hn : g.noCollide = true)
    (hc : g.condOK = true) : g.Total pd P := by
  refine ⟨fun args => simD_mass pd P hnorm g args, fun args o ho => ?_,
    fun x args hs => assessP_defined pd g hn hc x args hs⟩
  cases o with
  | none => exact absurd ho (simD_nofail pd P g hn args)
  | some t => exact ⟨t, rfl, simD_choices_skel pd P g args t ho⟩

theorem lawHyp_of_condOK_aux (hnorm : pd.Normalised) :
    (∀ g : GF, g.condOK = true → g.LawHyp pd P) ∧ ∀ b : Body, b.condOK = true → b.LawHyp pd P := by
  refine GF.rec_both (fun _ _ => trivial) (fun _ ih h => ih h) (fun _ _ _ ih h => ih h)
    (fun _ _ ih h => ih h) (fun t f iht ihf h => ?_) (fun _ _ => trivial)
    fun _ _ _ _ ihg ihr h => ?_
  · obtain ⟨hct, hcf, hsk, hnt, hnf⟩ := GF.condOK_cond h
    exact ⟨iht hct, ihf hcf, hsk, GF.total_of_noCollide_condOK pd P hnorm t hnt hct,
      GF.total_of_noCollide_condOK pd P hnorm f hnf hcf⟩
  · have h := Bool.and_eq_true_iff.mp h
    exact ⟨ihg h.1, ihr h.2⟩

theorem lawHyp_of_condOK_gf (hnorm : pd.Normalised) : (g : GF) → g.condOK = true → g.LawHyp pd P :=
  (lawHyp_of_condOK_aux pd P hnorm).1

theorem lawHyp_of_condOK_body (hnorm : pd.Normalised) : (b : Body) → b.condOK = true →
      b.LawHyp pd P :=
  (lawHyp_of_condOK_aux pd P hnorm).2

end Total

section Main
variable {K : Type} [Field K]

/-- the probability `assessP` assigns to a choice map (0 when it raises) -/
def pmassOf (o : Option (K × Val)) : K :=
  match o with
  | none => 0
  | some pr => pr.1

theorem massOf_one (o : Option (K × Val)) : massOf o (fun _ => 1) = pmassOf o := by
  cases o with
  | none => rfl
  | some pr => exact mul_one _

section CondFree
variable {R : Type} [Zero R] [Add R] [Neg R] (pd : PD K) (P : Prims R)

theorem simD_law_condFree (hpd : pd.WF) (g : GF) (hcf : g.condFree = true) (args : List Val)
    (x : CM) (ψ : Val → K) (hs : g.skel = some x.skel) :
    E (g.simD pd P args) (optK (choicesAre x ψ)) = massOf (g.assessP pd x args) ψ :=
  law_gf pd P hpd g (condFree_lawHyp_gf pd P g hcf) args x ψ hs

end CondFree

variable {R : Type} [AddCommGroup R] (pd : PD K) (P : Prims R)

theorem simD_law (hpd : pd.WF) (hnorm : pd.Normalised) (g : GF) (hc : g.condOK = true)
    (args : List Val) (x : CM) (ψ : Val → K) (hs : g.skel = some x.skel) :
    E (g.simD pd P args) (optK (choicesAre x ψ)) = massOf (g.assessP pd x args) ψ :=
  law_gf pd P hpd g (lawHyp_of_condOK_gf pd P hnorm g hc) args x ψ hs

theorem simD_law_off_shape (g : GF) (args : List Val) (x : CM) (ψ : Val → K)
    (hs : g.skel ≠ some x.skel) : E (g.simD pd P args) (optK (choicesAre x ψ)) = 0 := by
  refine (E_optK_congr _ _ (fun _ => 0) fun t ht => if_neg fun hx => hs ?_).trans (E_optK_zero _)
  exact (simD_choices_skel pd P g args t ht).symm.trans (congrArg (Option.map CM.skel) hx)

theorem simD_mass_some (hnorm : pd.Normalised) (g : GF) (hn : g.noCollide = true)
    (args : List Val) : E (g.simD pd P args) (optK fun _ => (1 : K)) = 1 := by
  refine Eq.trans (E_congr_supp _ _ _ fun o ho => ?_) (simD_mass pd P hnorm g args)
  cases o with
  | none => exact absurd ho (simD_nofail pd P g hn args)
  | some t => rfl

end Main

/-! ## instances (exact rationals) -/

/-- primitives on `Rat`:
    `d = 0`: coin on `{0, 1}` with `P(1) = params[0]`;
    `d ≥ 1`: three values `{0, 1, 2}` with masses `1/2, 1/3, 1/6` -/
def lawExPD : PD Rat where
  support := fun d _ => match d with
    | 0 => [.num 0, .num 1]
    | _ => [.num 0, .num 1, .num 2]
  pm := fun d a v => match d with
    | 0 =>
      let p := (a.getD 0 .nil).toRat
      if v = .num 1 then p else if v = .num 0 then 1 - p else 0
    | _ => if v = .num 0 then 1/2 else if v = .num 1 then 1/3 else if v = .num 2 then 1/6 else 0

/-- scores are irrelevant for the law: any log density will do -/
def lawExP : Prims Int := ⟨fun d _ v => (d : Int) + v.toRat.num, fun _ _ => .num 0⟩

theorem lawExPD_wf : lawExPD.WF where
  nodup d a := by
    cases d
    · show [Val.num 0, .num 1].Nodup
      decide
    · show [Val.num 0, .num 1, .num 2].Nodup
      decide
  off d a v hv := by
    cases d with
    | zero =>
      have h1 : v ≠ .num 1 := fun e => hv (e ▸ List.mem_cons_of_mem _ List.mem_cons_self)
      have h0 : v ≠ .num 0 := fun e => hv (e ▸ List.mem_cons_self)
      exact (if_neg h1).trans (if_neg h0)
    | succ n =>
      have h0 : v ≠ .num 0 := fun e => hv (e ▸ List.mem_cons_self)
      have h1 : v ≠ .num 1 := fun e => hv (e ▸ List.mem_cons_of_mem _ List.mem_cons_self)
      have h2 : v ≠ .num 2 := fun e =>
        hv (e ▸ List.mem_cons_of_mem _ (List.mem_cons_of_mem _ List.mem_cons_self))
      exact (if_neg h0).trans ((if_neg h1).trans (if_neg h2))

theorem lawExPD_normalised : lawExPD.Normalised := by
  intro d a
  cases d with
  | zero =>
    show 1 - (a.getD 0 .nil).toRat + ((a.getD 0 .nil).toRat + 0) = 1
    rw [add_zero, sub_add_cancel]
  | succ n =>
    show (1 / 2 : Rat) + (1 / 3 + (1 / 6 + 0)) = 1
    decide +kernel

/-- two sites, the second depends on the first (one argument, unused):
    `x ~ coin(1/3); y ~ coin(1/4 + x/2); return x + y` -/
def lawExG : GF :=
  .fn (.call "x" (.dist 0) [.const (1/3)]
      (.call "y" (.dist 0) [.add (.const (1/4)) (.mul (.var 1) (.const (1/2)))]
        (.ret (.add (.var 1) (.var 2)))))

def lawExX (x y : Rat) : CM :=
  .node (.cons "x" (.leaf (.num x)) (.cons "y" (.leaf (.num y)) .nil))

/-- a Scan over a Vmap: the carry is the running sum; each step draws two lanes, lane `j` a coin with
    `P(1) = (carry + xs[i] + j) / 8`, and returns (carry + sum of the lanes, the lanes) -/
def lawExStep : GF :=
  .fn (.call "v" (.vmap (.dist 0) [true] 2)
        [.pair (.mul (.add (.var 0) (.var 1)) (.const (1/8)))
               (.mul (.add (.add (.var 0) (.var 1)) (.const 1)) (.const (1/8)))]
      (.ret (.pair (.add (.var 0) (.sumv (.var 2))) (.var 2))))

def lawExScan : GF := .scan lawExStep 2

def lawExScanArgs : List Val := [.num 1, Val.ofList [.num 1, .num 2]]

def lawExLane (a b : Rat) : CM :=
  .node (.cons "v" (.lanes (.cons "" (.leaf (.num a)) (.cons "" (.leaf (.num b)) .nil))) .nil)

def lawExScanX (a b c d : Rat) : CM :=
  .lanes (.cons "" (lawExLane a b) (.cons "" (lawExLane c d) .nil))

/-- a Cond whose branches have the same shape (address `"x"`) and different distributions -/
def lawExCond : GF :=
  .cond (.fn (.call "x" (.dist 0) [.const (1/3)] (.ret (.var 0))))
        (.fn (.call "x" (.dist 1) [] (.ret (.add (.var 0) (.const 10)))))

/-- branches of different shapes: `{x}` against `{x, y}` -/
def lawExCondBad : GF :=
  .cond (.fn (.call "x" (.dist 0) [.const (1/2)] (.ret (.var 0))))
        (.fn (.call "x" (.dist 0) [.const (1/2)] (.call "y" (.dist 0) [.const (1/2)] (.ret (.var 0)))))

/-- for a Cond with branches of different shapes the law fails: the merged choice map
    `{x: 1, y: 1}` of `lawExCondBad` (true branch selected) has probability
    `P(x = 1 in the true branch) · P(y = 1 in the hidden false branch) = 1/4`, whereas `assess`
    reports the density of the selected branch alone, `1/2` (and summing `assess` over the four
    merged maps gives 2, not 1) -/
theorem simD_law_fails_on_mixed_cond :
    lawExCondBad.skel = some (lawExX 1 1).skel ∧
    E (lawExCondBad.simD lawExPD lawExP [.num 1]) (optK (choicesAre (lawExX 1 1) fun _ => 1)) = 1/4 ∧
    lawExCondBad.assessP lawExPD (lawExX 1 1) [.num 1] = some (1/2, .num 1) := by
  refine ⟨by decide +kernel, by decide +kernel, by decide +kernel⟩

end Genjax

import GenjaxModel.Proofs.GfiGenSupp
/-!
  C02 for programs with Cond: `generate` is properly weighted outcome by outcome,

      E_{(t, w) ∼ generateD g ox args} [ w · 1{choices t = y} · ψ(retval t) ]
        = 1{y is a completion of ox} · massOf (assessP g y args) ψ            (`genlaw_gf`)

  for every program whose Conds are `condOK` (branches of equal static shape, no address collision
  inside them) and normalised primitives.  At `cond (some x)` `generate` runs both branches under
  the constraint and returns the taken branch's weight; the hidden branch's constrained sites
  contribute nothing to the returned weight and its unconstrained draws are marginalised
  (`generateD_mass_some`).  The induction is the `generate` analogue of `law_gf` (Proofs/GfiLaw.lean).

  Summed over `y` the pointwise law gives proper weighting against functions of the choice map and
  the return value only (Proofs/GfiGenLawCondSum.lean); against arbitrary functions of the trace,
  which Proofs/GfiGenLaw.lean proves for Cond-free programs by its own induction, it is false here.
-/
namespace Genjax
open Smc Smc.FinDist

section Aux
variable {K : Type} [Field K] {R : Type} {α : Type}

theorem zipProd_agO : ∀ (xs l : CML),
    zipProd (fun x y => agO (K := K) (some x) y) xs.toList l.toList
      = if l.agreePosWith xs then 1 else 0
  | .nil, .nil => by simp [zipProd, CML.toList, CML.agreePosWith]
  | .nil, .cons _ _ _ => by simp [zipProd, CML.toList, CML.agreePosWith]
  | .cons _ _ _, .nil => by simp [zipProd, CML.toList, CML.agreePosWith]
  | .cons _ x xr, .cons _ y rest => by
      simp only [zipProd, CML.toList, CML.agreePosWith]
      rw [zipProd_agO xr rest]
      exact ite_mul_ite_fd (K := K) _ _

def tstLanes (ys : List CM) (Ψ : List Val → K) (tws : List (Tr R × K)) : K :=
  prodK (tws.map (·.2)) *
    (if (tws.map (·.1)).map Tr.choices = ys.map some then Ψ ((tws.map (·.1)).map Tr.retval) else 0)

def tstSteps (ys : List CM) (Ψ : List Val → Val → K) (r : List (Tr R × K) × Val) : K :=
  prodK (r.1.map (·.2)) *
    (if (r.1.map (·.1)).map Tr.choices = ys.map some
      then Ψ ((r.1.map (·.1)).map fun t => t.retval.snd) r.2 else 0)

theorem massOf_mul_left (o : Option (K × Val)) (C : K) (F : Val → K) :
    massOf o (fun r => C * F r) = C * massOf o F := by
  cases o with
  | none => exact (mul_zero C).symm
  | some pr => exact mul_left_comm _ _ _

theorem lanes_genlaw (G : Nat → α → FinDist K (Option (Tr R × K))) (ag : α → CM → K)
    (h : Nat → CM → Option (K × Val)) :
    ∀ (as : List α) (ys : List CM), as.length = ys.length →
      (∀ i, ∀ a ∈ as, ∀ y ∈ ys, ∀ ψ : Val → K,
        E (G i a) (optK fun tw => tw.2 * choicesAre y ψ tw.1) = ag a y * massOf (h i y) ψ) →
      ∀ (i : Nat) (Ψ : List Val → K),
        E (forLanesD G i as) (optK (tstLanes ys Ψ))
          = zipProd ag as ys * massOfL (forLanes h i ys) Ψ := by
  intro as
  induction as with
  | nil =>
    intro ys hlen _ i Ψ
    cases ys with
    | cons y ys => cases hlen
    | nil =>
      simp only [forLanesD, E_pureO, optK_some, tstLanes, List.map_nil, if_true, forLanes,
        massOfL, prodK, zipProd, one_mul]
  | cons a as ih =>
    intro ys hlen hG i Ψ
    cases ys with
    | nil => cases hlen
    | cons y ys =>
      have ih := ih ys (Nat.succ.inj hlen) fun i a' ha' y' hy' =>
        hG i a' (List.mem_cons_of_mem _ ha') y' (List.mem_cons_of_mem _ hy')
      have key : ∀ tw : Tr R × K, E (forLanesD G (i + 1) as)
            (optK fun tws => tstLanes (y :: ys) Ψ (tw :: tws))
          = tw.2 * choicesAre y (fun r => zipProd ag as ys *
              massOfL (forLanes h (i + 1) ys) (fun rs => Ψ (r :: rs))) tw.1 := by
        intro tw
        simp only [tstLanes, List.map_cons, List.cons.injEq, prodK, choicesAre]
        by_cases ht : tw.1.choices = some y
        · simp only [ht, true_and, if_true, mul_assoc]
          rw [E_optK_mul_left]
          exact congrArg (tw.2 * ·) (ih (i + 1) fun rs => Ψ (tw.1.retval :: rs))
        · simp only [ht, false_and, if_false, mul_zero]
          exact E_optK_zero _
      rw [E_forLanesD_cons, E_optK_congr _ _ _ fun tw _ => key tw,
        hG i a List.mem_cons_self y List.mem_cons_self, massOf_mul_left, massOfL_cons]
      exact (mul_assoc _ _ _).symm

theorem steps_genlaw (G : Val → Nat → α → FinDist K (Option (Tr R × K))) (ag : α → CM → K)
    (H : Val → Nat → CM → Option (K × Val)) :
    ∀ (as : List α) (ys : List CM), as.length = ys.length →
      (∀ c i, ∀ a ∈ as, ∀ y ∈ ys, ∀ ψ : Val → K,
        E (G c i a) (optK fun tw => tw.2 * choicesAre y ψ tw.1) = ag a y * massOf (H c i y) ψ) →
      ∀ (c : Val) (i : Nat) (Ψ : List Val → Val → K),
        E (forStepsD (fun c i a => bindO (G c i a) fun tw => pureO (tw, tw.1.retval.fst)) c i as)
            (optK (tstSteps ys Ψ))
          = zipProd ag as ys * massOfS (forSteps
              (fun c i x => (H c i x).bind fun pr => some ((pr.1, pr.2.snd), pr.2.fst)) c i ys) Ψ := by
  intro as
  induction as with
  | nil =>
    intro ys hlen _ c i Ψ
    cases ys with
    | cons y ys => cases hlen
    | nil =>
      simp only [forStepsD, E_pureO, optK_some, tstSteps, List.map_nil, if_true, forSteps,
        massOfS, prodK, zipProd, one_mul]
  | cons a as ih =>
    intro ys hlen hG c i Ψ
    cases ys with
    | nil => cases hlen
    | cons y ys =>
      have ih := ih ys (Nat.succ.inj hlen) fun c i a' ha' y' hy' =>
        hG c i a' (List.mem_cons_of_mem _ ha') y' (List.mem_cons_of_mem _ hy')
      have key : ∀ tw : Tr R × K, E (forStepsD
              (fun c i a => bindO (G c i a) fun tw => pureO (tw, tw.1.retval.fst))
              tw.1.retval.fst (i + 1) as)
            (optK fun q => tstSteps (y :: ys) Ψ (tw :: q.1, q.2))
          = tw.2 * choicesAre y (fun r => zipProd ag as ys * massOfS (forSteps
              (fun c i x => (H c i x).bind fun pr => some ((pr.1, pr.2.snd), pr.2.fst))
              r.fst (i + 1) ys) (fun rs c' => Ψ (r.snd :: rs) c')) tw.1 := by
        intro tw
        simp only [tstSteps, List.map_cons, List.cons.injEq, prodK, choicesAre]
        by_cases ht : tw.1.choices = some y
        · simp only [ht, true_and, if_true, mul_assoc]
          rw [E_optK_mul_left]
          exact congrArg (tw.2 * ·)
            (ih tw.1.retval.fst (i + 1) fun rs c' => Ψ (tw.1.retval.snd :: rs) c')
        · simp only [ht, false_and, if_false, mul_zero]
          exact E_optK_zero _
      rw [E_forStepsD_cons, E_bindO_pureO, E_optK_congr _ _ _ fun tw _ => key tw,
        hG c i a List.mem_cons_self y List.mem_cons_self, massOf_mul_left, massOfS_cons]
      exact (mul_assoc _ _ _).symm

end Aux

section BodyAux
variable {K : Type} [Field K] {R : Type} [Zero R] [Add R] [Neg R]
variable (pd : PD K) (P : Prims R) (cfg : Cfg)

/-- `tstB` of `GfiLaw.lean` with the accumulated weight -/
def tstG (X : CML) (Ψ : Val → K) (r : TrL R × Val × R × K) : K :=
  r.2.2.2 * (if r.1.choices = some X then Ψ r.2.1 else 0)

theorem gen_body_strip_none : (body : Body) → ∀ (xs : CML) (env : List Val) (subs : TrL R) (s : R)
    (w : K) (X : CML) (Ψ : Val → K), subs.strip X = none →
    E (body.generateD pd P cfg xs env subs s w) (optK (tstG X Ψ)) = 0
  | .ret e, xs, env, subs, s, w, X, Ψ, h => by
      simp only [Body.generateD, E_pureO, optK_some, tstG]
      rw [if_neg, mul_zero]
      intro hc
      rw [(TrL.choices_iff_strip _ _).mp hc] at h
      cases h
  | .call addr g es rest, xs, env, subs, s, w, X, Ψ, h => by
      simp only [Body.generateD]
      split
      · exact E_failO _
      · rw [E_bindO]
        refine E_eq_zero_fd _ _ fun o => ?_
        cases o with
        | none => rfl
        | some t =>
          exact gen_body_strip_none rest _ _ _ _ _ _ _ (by rw [TrL.strip_snoc, h]; rfl)

theorem genlaw_none (hpd : pd.WF) (g : GF) (hl : g.LawHyp pd P) (hv : g.vmapOK cfg = true)
    (args : List Val) (y : CM) (ψ : Val → K) (hs : g.skel = some y.skel) :
    E (g.generateD pd P cfg none args) (optK fun tw => tw.2 * choicesAre y ψ tw.1)
      = agO none y * massOf (g.assessP pd y args) ψ := by
  rw [generateD_none pd P cfg g hv]
  simp only [agO, one_mul]
  exact law_gf pd P hpd g hl args y ψ hs

/-- `C` stands for the `massOf …` factor -/
theorem genlaw_zero {g : GF} {x y : CM} {args : List Val} (φ : Tr R × K → K) (C : K)
    (hfail : g.generateD pd P cfg (some x) args = failO) (hag : y.agreeWith x = false) :
    E (g.generateD pd P cfg (some x) args) (optK φ) = agO (some x) y * C := by
  rw [hfail, E_failO, optK_none]
  simp only [agO, hag, Bool.false_eq_true, if_false, zero_mul]

end BodyAux

section Main
variable {K : Type} [Field K] {R : Type} [AddCommGroup R]
variable (pd : PD K) (P : Prims R) (cfg : Cfg)

/-- The induction behind `genlaw_gf`.  For a body: `subs`, `s`, `w` are the sub-traces, score and
    weight accumulated before this body (`w` comes out as a factor); `BodyLawInv subs seen X rem`
    says that `subs` spells out the full dict `X` at the addresses `seen` visited so far and that
    `rem` is the not-yet-visited tail of `X` — what this body still has to produce
    (`body.skel = some rem.skel`) and what is compared with the constraints `xs`. -/
theorem genlaw_both (hpd : pd.WF) (hnorm : pd.Normalised) :
    (∀ g : GF, g.condOK = true → g.vmapOK cfg = true →
      ∀ (x : CM) (args : List Val) (y : CM) (ψ : Val → K), g.skel = some y.skel →
      E (g.generateD pd P cfg (some x) args) (optK fun tw => tw.2 * choicesAre y ψ tw.1)
        = agO (some x) y * massOf (g.assessP pd y args) ψ) ∧
    ∀ body : Body, body.condOK = true → body.vmapOK cfg = true →
      ∀ (xs : CML) (env : List Val) (subs : TrL R) (s : R) (w : K) (X rem : CML)
      (seen : List String) (Ψ : Val → K), BodyLawInv subs seen X rem → body.skel = some rem.skel →
      E (body.generateD pd P cfg xs env subs s w) (optK (tstG X Ψ))
        = w * (if rem.agreeAllWith xs then (1 : K) else 0) * massOf (body.assessP pd X env seen) Ψ := by
  refine GF.rec_both ?_ ?_ ?_ ?_ ?_ ?_ ?_
  · intro d _ _ x args y ψ hs
    obtain ⟨v0, rfl⟩ := CM.skel_leaf (Option.some.inj hs)
    cases x with
    | leaf v =>
      simp only [GF.generateD, E_pureO, optK_some, choicesAre, Tr.choices, Tr.retval,
        Option.some.injEq, CM.leaf.injEq, GF.assessP, massOf, agO, CM.agreeWith]
      by_cases h : v = v0
      · subst h; simp only [↓reduceIte, decide_true, one_mul]
      · simp only [h, ↓reduceIte, mul_zero, decide_false, Bool.false_eq_true, zero_mul]
    | _ => exact genlaw_zero pd P cfg _ _ rfl rfl
  · intro body ih hc hv x args y ψ hs
    obtain ⟨X, rfl, hbs⟩ := GF.skel_fn hs
    cases x with
    | node xs =>
      simp only [GF.generateD, GF.assessP]
      rw [E_bindO]
      have hfun : (fun r : TrL R × Val × R × K => E (pureO (Tr.fn r.1 r.2.1 r.2.2.1, r.2.2.2))
          (optK fun tw => tw.2 * choicesAre (.node X) ψ tw.1)) = tstG X ψ := by
        funext r
        simp only [E_pureO, optK_some, choicesAre, tstG, Tr.choices, Tr.retval,
          Option.map_eq_some_iff, CM.node.injEq, exists_eq_right]
      rw [hfun, ih hc hv xs args .nil 0 1 X X [] ψ
        ⟨rfl, fun a => rfl, fun a _ => rfl⟩ hbs, one_mul]
      rfl
    | _ => exact genlaw_zero pd P cfg _ _ rfl rfl
  · intro g axes n ih hc hv x args y ψ hs
    simp only [GF.vmapOK, Bool.and_eq_true] at hv
    obtain ⟨l, rfl, hl1, hl2, hl3⟩ := skelLanes_lanes hs
    cases x with
    | lanes xs =>
      by_cases hlen : xs.toList.length = n
      · have hfun : (fun ts : List (Tr R × K) =>
              E (pureO (Tr.vec (TrL.ofList (ts.map (·.1))), prodK (ts.map (·.2))))
                (optK fun tw => tw.2 * choicesAre (.lanes l) ψ tw.1))
            = tstLanes l.toList (fun rs => ψ (Val.ofList rs)) := by
          funext ts
          exact (E_pureO _ _).trans (congrArg (prodK (ts.map (·.2)) * ·) (if_congr
            (TrL.choices_ofList_lanes hl1 _) (congrArg ψ (TrL.retvals_ofList _)) rfl))
        simp only [GF.generateD, if_pos hlen]
        rw [E_bindO, hfun, lanes_genlaw
          (fun i xi => g.generateD pd P cfg (some xi) (laneArgs axes args i))
          (fun x y => agO (some x) y) (fun i xi => g.assessP pd xi (laneArgs axes args i))
          xs.toList l.toList (hlen.trans hl2.symm)
          (fun i a _ y hy ψ' => ih hc hv.2 a _ y ψ' (hl3 y hy)) 0, zipProd_agO]
        simp only [GF.assessP, lenIs, hl2, if_true, Option.bind_eq_bind, Option.bind_some,
          Option.pure_def, agO, CM.agreeWith]
        cases forLanes (fun i xi => g.assessP pd xi (laneArgs axes args i)) 0 l.toList <;> rfl
      · refine genlaw_zero pd P cfg _ _ (by simp only [GF.generateD, if_neg hlen]) ?_
        exact Bool.eq_false_iff.mpr fun hag => hlen ((CML.agreePosWith_length l xs hag).trans hl2)
    | _ => exact genlaw_zero pd P cfg _ _ rfl rfl
  · intro g n ih hc hv x args y ψ hs
    obtain ⟨l, rfl, hl1, hl2, hl3⟩ := skelLanes_lanes hs
    cases x with
    | lanes xs =>
      by_cases hlen : xs.toList.length = n
      · have hfun : (fun r : List (Tr R × K) × Val =>
              E (pureO (Tr.scan (TrL.ofList (r.1.map (·.1))) r.2, prodK (r.1.map (·.2))))
                (optK fun tw => tw.2 * choicesAre (.lanes l) ψ tw.1))
            = tstSteps l.toList (fun rs c' => ψ (Val.pair c' (Val.ofList rs))) := by
          funext r
          exact (E_pureO _ _).trans (congrArg (prodK (r.1.map (·.2)) * ·) (if_congr
            (TrL.choices_ofList_lanes hl1 _)
            (congrArg (fun v => ψ (Val.pair r.2 v)) (TrL.outs_ofList _)) rfl))
        simp only [GF.generateD, if_pos hlen]
        rw [E_bindO, hfun, steps_genlaw
          (fun c i xi => g.generateD pd P cfg (some xi) [c, (args.getD 1 .nil).nth i])
          (fun x y => agO (some x) y)
          (fun c i xi => g.assessP pd xi [c, (args.getD 1 .nil).nth i])
          xs.toList l.toList (hlen.trans hl2.symm)
          (fun c i a _ y hy ψ' => ih hc hv a _ y ψ' (hl3 y hy)) (args.getD 0 .nil) 0, zipProd_agO]
        simp only [GF.assessP, lenIs, hl2, if_true, Option.bind_eq_bind, Option.bind_some,
          Option.pure_def, agO, CM.agreeWith]
        cases forSteps (fun c i xi => (g.assessP pd xi [c, (args.getD 1 .nil).nth i]).bind
            fun pr => some ((pr.1, pr.2.snd), pr.2.fst)) (args.getD 0 .nil) 0 l.toList <;> rfl
      · refine genlaw_zero pd P cfg _ _ (by simp only [GF.generateD, if_neg hlen]) ?_
        exact Bool.eq_false_iff.mpr fun hag => hlen ((CML.agreePosWith_length l xs hag).trans hl2)
    | _ => exact genlaw_zero pd P cfg _ _ rfl rfl
  · intro t f iht ihf hc hv x args y ψ hs
    obtain ⟨hct, hcf, hsk, hnt, hnf⟩ := GF.condOK_cond hc
    simp only [GF.vmapOK, Bool.and_eq_true] at hv
    have hts := GF.skel_cond hsk hs
    have hfs : f.skel = some y.skel := hsk ▸ hts
    obtain ⟨p, hp⟩ := Option.isSome_iff_exists.mp
      (assessP_defined pd t hnt hct y (args.drop 1) hts)
    obtain ⟨q, hq⟩ := Option.isSome_iff_exists.mp
      (assessP_defined pd f hnf hcf y (args.drop 1) hfs)
    have hLt := iht hct hv.1 x (args.drop 1) y ψ hts
    have hLf := ihf hcf hv.2 x (args.drop 1) y ψ hfs
    rw [hp] at hLt
    rw [hq] at hLf
    -- the hidden branch never raises when `y` is a completion of the constraint
    have hNt := generateD_mass_some pd P cfg hnorm t hnt hct hv.1 (some x) y (args.drop 1) hts
    have hNf := generateD_mass_some pd P cfg hnorm f hnf hcf hv.2 (some x) y (args.drop 1) hfs
    -- the merged choice map and the return value are the visible branch's
    have hvis : ∀ aw bw, some aw ∈ supp (t.generateD pd P cfg (some x) (args.drop 1)) →
        some bw ∈ supp (f.generateD pd P cfg (some x) (args.drop 1)) → ∀ c : Bool,
        choicesAre y ψ (Tr.cond c aw.1 bw.1) = choicesAre y ψ (if c then aw.1 else bw.1) := by
      intro aw bw haw hbw c
      obtain ⟨xa, hxa, hxas⟩ :=
        exists_choices_skel_eq (hts ▸ generateD_choices_skel pd P cfg t _ _ aw haw)
      obtain ⟨xb, hxb, hxbs⟩ :=
        exists_choices_skel_eq (hfs ▸ generateD_choices_skel pd P cfg f _ _ bw hbw)
      cases c <;>
        simp only [choicesAre, Tr.choices, Tr.retval, hxa, hxb, Option.bind_eq_bind,
          Option.bind_some, CM.mergeCheck_same _ xa xb (hxas.trans hxbs.symm), Bool.false_eq_true,
          if_false, if_true]
    simp only [GF.generateD, GF.assessP, hp, hq, Option.bind_eq_bind, Option.bind_some,
      Option.pure_def]
    generalize (args.getD 0 .nil).truthy = c
    -- the visible branch contributes its law, the hidden one its total mass
    cases c with
    | true =>
      rw [E_bindO₂_mul _ _ _ _ (fun aw => aw.2 * choicesAre y ψ aw.1) (fun _ => 1)
        fun aw haw bw hbw => by simp only [hvis aw bw haw hbw, if_true, mul_one], hLt, agO_eq_agOb]
      cases hag : agOb (some x) y with
      | false => simp only [Bool.false_eq_true, ↓reduceIte, zero_mul]
      | true => rw [hNf hag]; simp only [↓reduceIte, massOf, one_mul, mul_one]
    | false =>
      rw [E_bindO₂_mul _ _ _ _ (fun _ => 1) (fun bw => bw.2 * choicesAre y ψ bw.1)
        fun aw haw bw hbw => by
          simp only [hvis aw bw haw hbw, Bool.false_eq_true, if_false, one_mul], hLf, agO_eq_agOb]
      cases hag : agOb (some x) y with
      | false => simp only [Bool.false_eq_true, ↓reduceIte, zero_mul, mul_zero]
      | true => rw [hNt hag]; simp only [↓reduceIte, massOf, one_mul, Bool.false_eq_true]
  · intro e _ _ xs env subs s w X rem seen Ψ hinv hs
    have := CML.skel_eq_nil (Option.some.inj hs).symm
    subst this
    simp only [Body.generateD, E_pureO, optK_some, tstG, Body.assessP, massOf, one_mul,
      CML.agreeAllWith, if_true, mul_one]
    rw [if_pos ((TrL.choices_iff_strip _ _).mpr hinv.strip)]
  · intro addr g es rest ihg ihr hc hv xs env subs s w X rem seen Ψ hinv hs
    simp only [Body.condOK, Bool.and_eq_true] at hc
    simp only [Body.vmapOK, Bool.and_eq_true] at hv
    obtain ⟨c, rem', rfl, hgs, hrs⟩ := Body.skel_call hs
    simp only [Body.generateD, Body.assessP]
    rw [hinv.seen_iff addr]
    cases hseen : seen.contains addr with
    | true =>
      simp only [if_true, E_failO, optK_none, massOf, mul_zero]
    | false =>
      simp only [Bool.false_eq_true, if_false]
      rw [hinv.find addr hseen]
      simp only [CML.find?, if_true]
      rw [E_bindO]
      have key : ∀ tw : Tr R × K, E (rest.generateD pd P cfg xs (env ++ [tw.1.retval])
            (subs.snoc addr tw.1) (s + tw.1.score) (w * tw.2)) (optK (tstG X Ψ))
          = tw.2 * choicesAre c (fun r => w *
              (if rem'.agreeAllWith xs then (1 : K) else 0) *
              massOf (rest.assessP pd X (env ++ [r]) (addr :: seen)) Ψ) tw.1 := by
        intro tw
        simp only [choicesAre]
        by_cases ht : tw.1.choices = some c
        · rw [if_pos ht, ihr hc.2 hv.2 xs _ _ _ _ X rem' (addr :: seen) Ψ (hinv.step ht) hrs]
          ring
        · rw [if_neg ht, mul_zero]
          apply gen_body_strip_none
          rw [TrL.strip_snoc, hinv.strip]
          simp only [Option.bind_some, stepRem, true_and]
          rw [if_neg ht]
      -- the callee's law, constrained (`ihg`) or not (`genlaw_none`)
      have hg : ∀ ψ : Val → K,
          E (g.generateD pd P cfg (xs.find? addr) (es.map (·.eval env)))
              (optK fun tw => tw.2 * choicesAre c ψ tw.1)
            = agO (xs.find? addr) c * massOf (g.assessP pd c (es.map (·.eval env))) ψ := by
        intro ψ
        cases xs.find? addr with
        | none => exact genlaw_none pd P cfg hpd g (lawHyp_of_condOK_gf pd P hnorm g hc.1) hv.1 _ c ψ hgs
        | some x => exact ihg hc.1 hv.1 x _ c ψ hgs
      rw [E_optK_congr _ _ _ fun tw _ => key tw, hg, CML.agreeAllWith_cons, ← agO_mul_ite]
      rw [massOf_mul_left]
      refine Eq.trans ?_ (congrArg _ (massOf_bind (g.assessP pd c (es.map (·.eval env)))
        (fun r => rest.assessP pd X (env ++ [r]) (addr :: seen)) Ψ).symm)
      ring

theorem genlaw_gf (hpd : pd.WF) (hnorm : pd.Normalised) : (g : GF) → g.condOK = true →
      g.vmapOK cfg = true → ∀ (ox : Option CM) (args : List Val) (y : CM) (ψ : Val → K),
      g.skel = some y.skel →
      E (g.generateD pd P cfg ox args) (optK fun tw => tw.2 * choicesAre y ψ tw.1)
        = agO ox y * massOf (g.assessP pd y args) ψ := by
  intro g hc hv ox args y ψ hs
  cases ox with
  | none => exact genlaw_none pd P cfg hpd g (lawHyp_of_condOK_gf pd P hnorm g hc) hv args y ψ hs
  | some x => exact (genlaw_both pd P cfg hpd hnorm).1 g hc hv x args y ψ hs

theorem genlaw_body (hpd : pd.WF) (hnorm : pd.Normalised) : (body : Body) →
      body.condOK = true → body.vmapOK cfg = true → ∀ (xs : CML) (env : List Val) (subs : TrL R)
      (s : R) (w : K) (X rem : CML) (seen : List String) (Ψ : Val → K),
      BodyLawInv subs seen X rem → body.skel = some rem.skel →
      E (body.generateD pd P cfg xs env subs s w) (optK (tstG X Ψ))
        = w * (if rem.agreeAllWith xs then (1 : K) else 0) * massOf (body.assessP pd X env seen) Ψ :=
  (genlaw_both pd P cfg hpd hnorm).2

end Main

end Genjax

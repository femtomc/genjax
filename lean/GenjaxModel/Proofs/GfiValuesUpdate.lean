import GenjaxModel.Proofs.GfiValuesFill
import GenjaxModel.Proofs.GfiValuesView
/-!
  Value-level theorems for `update` (C03): which values the new trace and the discard hold.

  A constraint that `update` accepts agrees in kind with the old choice map (`update_agree`), which
  is what makes the constraint that `Cond.update` completes (`cfg.condUpdateFill`) show the old
  visible values.  `UpdVals` collects the facts about one address, proved together by one induction
  on the program (`updValsOK_all`); the theorems of C03 are read off it.
-/
namespace Genjax
variable {R : Type} [Zero R] [Add R] [Neg R] (P : Prims R) (cfg : Cfg)

/-! ## the constraints `update` hands on, seen from a path -/

omit [Zero R] [Add R] [Neg R] in
theorem fnConstraint_some {x : Option CM} {kids : CML} (h : fnConstraint x = some kids) :
    x = none ∧ kids = .nil ∨ x = some (.node kids) := by
  rcases x with _ | (_ | _ | _) <;> cases h
  · exact .inl ⟨rfl, rfl⟩
  · exact .inr rfl

omit [Zero R] [Add R] [Neg R] in
theorem fnConstraint_leafAt {x : Option CM} {kids : CML} (h : fnConstraint x = some kids)
    (a : String) (p : Path) : CM.leafAt? x (.key a :: p) = CM.leafAt? (kids.find? a) p := by
  obtain ⟨rfl, rfl⟩ | rfl := fnConstraint_some h
  · rfl
  · exact CM.leafAt?_node_key kids a p

omit [Zero R] [Add R] [Neg R] in
theorem laneConstraints_leafAt {n : Nat} {x : Option CM} {xs : List (Option CM)}
    (h : laneConstraints n x = some xs) (i : Nat) (p : Path) :
    CM.leafAt? x (.idx i :: p) = CM.leafAt? ((xs[i]?).getD none) p := by
  obtain ⟨rfl, rfl⟩ | ⟨l, rfl, -, rfl⟩ := laneConstraints_some h
  · rw [List.getElem?_replicate]
    split <;> rfl
  · simp only [CM.leafAt?, CM.leafAt_lanes_idx, List.getElem?_map]
    cases l.toList[i]? <;> rfl

/-- the constraint that `Cond.update` hands to BOTH branches: the given one
    (`cfg.condUpdateFill = false`), or the given one completed with the visible old choices
    (`cfg.condUpdateFill = true`) -/
def CondX (x : Option CM) (vis : Option CM) (xq : Option CM) : Prop :=
  (cfg.condUpdateFill = false ∧ xq = x) ∨
  (cfg.condUpdateFill = true ∧ ∃ y, vis = some y ∧
    ((x = none ∧ xq = some y) ∨ ∃ xc, x = some xc ∧ xq = some (CM.fill y xc)))

omit [Zero R] [Add R] [Neg R] in
theorem condConstraint_some {t : Tr R} {x xq : Option CM}
    (h : condConstraint cfg t x = some xq) : CondX cfg x t.choices xq := by
  unfold condConstraint at h
  split at h
  · rename_i hf
    obtain ⟨vis, hvis, hxq⟩ := Option.map_eq_some_iff.mp h
    cases hxq
    refine .inr ⟨hf, vis, hvis, ?_⟩
    cases x with
    | none => exact .inl ⟨rfl, rfl⟩
    | some xc => exact .inr ⟨xc, rfl, rfl⟩
  · rename_i hf
    cases h
    exact .inl ⟨Bool.eq_false_iff.mpr hf, rfl⟩

omit [Zero R] [Add R] [Neg R] in
theorem CondX.con {x vis xq : Option CM} (h : CondX cfg x vis xq) (p : Path) (v : Val)
    (hv : CM.leafAt? x p = some v) : CM.leafAt? xq p = some v := by
  rcases h with ⟨_, rfl⟩ | ⟨_, y, _, ⟨rfl, _⟩ | ⟨xc, rfl, rfl⟩⟩
  · exact hv
  · cases hv
  · exact CM.fill_leafAt_some p y xc v hv

/-! ## what the Update handler does at each call site -/

theorem Body.update_sites (old : TrL R) (x : CML) (b : Body) : ∀ (env : List Val) (subs : TrL R)
    (s w : R) (d : CML) (subsF : TrL R) (r : Val) (sF wF : R) (dF : CML),
    b.update P cfg old x env subs s w d = some (subsF, r, sF, wF, dF) →
    SitesInv (fun a g args t ds => ∃ sub xsub w1, old.find? a = some sub ∧
        (match x.find? a with | some c => some c | none => sub.choices) = some xsub ∧
        g.update P cfg sub (some xsub) args = some (t, w1, ds))
      b env subs d subsF dF := by
  induction b using Body.list_induction with
  | ret e =>
    intro env subs s w d subsF r sF wF dF h
    cases h
    exact .ret ..
  | call addr g0 es0 rest ih =>
    intro env subs s w d subsF r sF wF dF h
    obtain ⟨hn, sub, xsub, t1, w1, d1, hsub, hxsub, h1, h2⟩ := update_call_inv P cfg h
    exact .call hn (ih _ _ _ _ _ _ _ _ _ _ h2) ⟨sub, xsub, w1, hsub, hxsub, h1⟩

/-! ## `update_agree` -/

/-- a constraint map that `update` accepts has, at every path it shares with the old choice map,
    the same kind of node (leaf / dict / vectorised map of the same length) -/
def UpdAgreeOK (g : GF) : Prop :=
  ∀ (t : Tr R) (xc : CM) (args : List Val) (t' : Tr R) (w : R) (d : Option CM),
    g.update P cfg t (some xc) args = some (t', w, d) → g.Canon t →
    ∀ y, t.choices = some y → ∀ q, AgreeAt xc y q

theorem updAgree_lanes (g : GF) (IH : UpdAgreeOK P cfg g) {old : TrL R} {n : Nat} {xc : CM}
    {xs : List (Option CM)} {rs : List (Upd R)} {A : Nat → List Val}
    (hlen : old.toList.length = n) (hxs : laneConstraints n (some xc) = some xs)
    (hL : LanesRun (fun i q => g.update P cfg q.1 q.2 (A i)) (old.toList.zip xs) rs)
    (hcan : lanesCanon (fun t => g.Canon t) old)
    (y : CM) (hy : old.choices.map CM.lanes = some y) : ∀ q, AgreeAt xc y q := by
  obtain ⟨xl, hxl, rfl⟩ := Option.map_eq_some_iff.mp hy
  obtain ⟨hx, -⟩ | ⟨l, hx, hll, rfl⟩ := laneConstraints_some hxs
  · cases hx
  cases hx
  obtain ⟨-, hget⟩ := hL.zip_left (by rw [List.length_map, hll, hlen])
  have hlenl : l.toList.length = xl.toList.length := by
    rw [TrL.choices_length old xl hxl, hll, hlen]
  refine agreeAt_of_sub (congrArg Kind.lanes hlenl) fun s x' y' hx' hy' => ?_
  cases s with
  | key k => cases hx'
  | idx i =>
    rw [show (CM.lanes xl).sub (.idx i) = xl.toList[i]? from rfl,
      TrL.choices_get_eq old xl hxl i] at hy'
    obtain ⟨ti, hti, hyi⟩ := Option.bind_eq_some_iff.mp hy'
    obtain ⟨xi, b, hxi, hb, hu⟩ := hget i ti hti
    rw [List.getElem?_map, show l.toList[i]? = some x' from hx'] at hxi
    cases hxi
    exact IH ti x' (A i) b.1 b.2.1 b.2.2 hu (lanesCanon_get _ old hcan i ti hti) y' hyi

theorem update_agree : ∀ g, UpdAgreeOK P cfg g := by
  refine GF.induct_sites _ ?_ ?_ ?_ ?_ ?_
  · intro d0 t xc args t' w d h _ y hy
    obtain ⟨vOld, sOld, v, rfl, hx, -, -, -⟩ := update_dist_inv P cfg h
    rcases hx with ⟨hx, _⟩ | hx <;> cases hx
    cases hy
    exact agreeAt_of_sub rfl fun s x' y' hx' => by cases hx'
  · intro body ih t xc args t' w d h hcan y hy
    obtain ⟨old, r0, s0, kids, subs, r, s, d', rfl, hx, hb, rfl, rfl⟩ := update_fn_inv P cfg h
    obtain ⟨hx, -⟩ | hx := fnConstraint_some hx <;> cases hx
    obtain ⟨xl, hxl, rfl⟩ := Option.map_eq_some_iff.mp hy
    refine agreeAt_of_sub rfl fun s x' y' hx' hy' => ?_
    cases s with
    | idx i => cases hx'
    | key a =>
      rw [show (CM.node xl).sub (.key a) = xl.find? a from rfl,
        TrL.choices_find_eq old xl hxl a] at hy'
      obtain ⟨sub', hsub', hys⟩ := Option.bind_eq_some_iff.mp hy'
      cases hsite : body.site a with
      | none =>
        rw [Body.canonL_site_none body old hcan a hsite] at hsub'
        cases hsub'
      | some ge =>
        obtain ⟨t1, d1, ⟨sub, xsub, w1, hsub, hxsub, hu⟩, -, -⟩ :=
          (Body.update_sites P cfg old kids body _ _ _ _ _ _ _ _ _ _ hb).site a ge.1 ge.2 rfl rfl
            hsite
        rw [show kids.find? a = some x' from hx'] at hxsub
        cases hxsub
        cases hsub'.symm.trans hsub
        obtain ⟨t0, ht0, hg⟩ := Body.canonL_site_some body old hcan a ge.1 ge.2 hsite
        cases ht0.symm.trans hsub
        exact ih a ge.1 ge.2 hsite _ x' _ t1 w1 d1 hu hg y' hys
  · intro g axes n ih t xc args t' w d h hcan y hy
    obtain ⟨old, xs, rs, rfl, hlen, hxs, hrs, -, -, -⟩ := update_vmap_inv P cfg h
    exact updAgree_lanes P cfg g ih hlen hxs (.of_forLanes hrs) hcan y hy
  · intro g n ih t xc args t' w d h hcan y hy
    obtain ⟨old, c0, xs, rs, c, rfl, hlen, hxs, hrs, -, -, -⟩ := update_scan_inv P cfg h
    have hL := LanesRun.of_forSteps (proj := (·.1)) hrs fun _ _ _ _ _ => updStep_some P cfg
    exact updAgree_lanes P cfg g ih hlen hxs hL hcan y hy
  · intro tg fg iht ihf t xc args t' w d h hcan y hy
    obtain ⟨cOld, a, b, xq, a', wa, da, b', wb, db, rfl, hxq, ha, hb, -, -, -⟩ :=
      update_cond_inv P cfg h
    obtain ⟨ya, hya, hy'⟩ := Option.bind_eq_some_iff.mp hy
    obtain ⟨yb, hyb, hm⟩ := Option.bind_eq_some_iff.mp hy'
    -- whatever is handed to the branches agrees with the merged map: at a path the true branch's
    -- map reaches, by the true branch, elsewhere by the false branch
    have key : ∀ (z : CM), xq = some z → ∀ q, AgreeAt z y q := by
      intro z hz q kz ky h1 h2
      subst hz
      rw [CM.mergeCheck_kindAt _ _ _ _ hm q] at h2
      cases hka : ya.kindAt q with
      | some k =>
        rw [hka] at h2
        obtain rfl := Option.some.inj h2
        exact iht a z _ a' wa da ha hcan.1 ya hya q kz k h1 hka
      | none =>
        rw [hka] at h2
        exact ihf b z _ b' wb db hb hcan.2 yb hyb q kz ky h1 h2
    rcases condConstraint_some cfg hxq with ⟨_, rfl⟩ | ⟨_, y0, hvis, ⟨hx, _⟩ | ⟨xc', hx, rfl⟩⟩
    · exact key xc rfl
    · cases hx
    · cases hx
      cases hy.symm.trans hvis
      exact fun q => CM.agree_of_fill q y xc (key _ rfl)

/-! ## the values in the new trace and in the discard -/

/-- What `update` establishes at one address, in terms of the values found there: `xv` in the
    constraint, `dv` in the discard, `yv` / `yv'` what the old / new trace shows (`Tr.valAt`).
    `can` = the old trace has canonical shape, `same` = no Cond switched branch. -/
structure UpdVals (can same : Prop) (xv dv yv yv' : Option Val) : Prop where
  con : ∀ v, xv = some v → ∀ v', yv' = some v' → v' = v
  dom : can → yv'.isSome = yv.isSome
  unc : xv = none → (same ∨ cfg.condUpdateFill = true) → can → yv' = yv
  dis : cfg.condDiscardVisible = true → can → dv = yv

variable {cfg}

theorem UpdVals.of_none {can same : Prop} {xv dv yv : Option Val}
    (h : can → yv = none ∧ dv = none) : UpdVals cfg can same xv dv yv none :=
  ⟨fun _ _ _ hv' => (nomatch hv'), fun hc => by rw [(h hc).1], fun _ _ hc => (h hc).1.symm,
    fun _ hc => (h hc).2.trans (h hc).1.symm⟩

theorem UpdVals.imp {can same can' same' : Prop} {xv dv yv yv' : Option Val}
    (ih : UpdVals cfg can' same' xv dv yv yv') (hcan : can → can') (hsame : same → same') :
    UpdVals cfg can same xv dv yv yv' :=
  ⟨ih.con, fun hc => ih.dom (hcan hc), fun hx hs hc => ih.unc hx (hs.imp hsame id) (hcan hc),
    fun hd hc => ih.dis hd (hcan hc)⟩

theorem UpdVals.self {can same : Prop} {dv yv yv' : Option Val}
    (ih : UpdVals cfg can same yv dv yv yv') (hc : can) : yv' = yv :=
  Option.eq_of_isSome_eq (ih.dom hc) fun v' v hv' hv => ih.con v hv v' hv'

/-- the sub-trace was constrained to its own values, the trace not constrained there: nothing
    changes, whether or not a Cond below switches branch -/
theorem UpdVals.of_child_self {can same can' same' : Prop} {dv yv yv' : Option Val}
    (ih : UpdVals cfg can' same' yv dv yv yv') (hcan : can → can') :
    UpdVals cfg can same none dv yv yv' :=
  ⟨fun _ hv => (nomatch hv), fun hc => ih.dom (hcan hc), fun _ _ hc => ih.self (hcan hc),
    fun hd hc => ih.dis hd (hcan hc)⟩

variable (cfg)

def UpdValsOK (g : GF) : Prop :=
  ∀ (t : Tr R) (x : Option CM) (args : List Val) (t' : Tr R) (w : R) (d : Option CM),
    g.update P cfg t x args = some (t', w, d) → ∀ p,
      UpdVals cfg (g.Canon t) (Tr.sameChecks t t') (CM.leafAt? x p) (CM.leafAt? d p) (t.valAt p)
        (t'.valAt p)

theorem updVals_lanes (g : GF) (IH : UpdValsOK P cfg g) {old : TrL R} {n : Nat} {x : Option CM}
    {xs : List (Option CM)} {rs : List (Upd R)} {A : Nat → List Val}
    (hlen : old.toList.length = n) (hxs : laneConstraints n x = some xs)
    (hL : LanesRun (fun i q => g.update P cfg q.1 q.2 (A i)) (old.toList.zip xs) rs) (p : Path) :
    UpdVals cfg (lanesCanon (fun t => g.Canon t) old)
      (Tr.sameChecks.TrL.sameChecksPos old (TrL.ofList (rs.map (·.1))))
      (CM.leafAt? x p) (CM.leafAt? (lanesDiscard (rs.map (·.2.2))) p)
      ((Tr.vec old).valAt p) ((Tr.vec (TrL.ofList (rs.map (·.1)))).valAt p) := by
  obtain ⟨hrl, hget⟩ := hL.zip_left ((laneConstraints_length hxs).trans hlen.symm)
  rcases p with _ | ⟨k | i, p⟩
  · rw [lanesDiscard_leafAt_nil]
    exact .of_none fun _ => ⟨rfl, rfl⟩
  · rw [lanesDiscard_leafAt_key]
    exact .of_none fun _ => ⟨rfl, rfl⟩
  · show UpdVals cfg _ _ _ _ (old.valAtIdx i p) ((TrL.ofList (rs.map (·.1))).valAtIdx i p)
    rw [laneConstraints_leafAt hxs, lanesDiscard_leafAt_idx, TrL.valAtIdx_eq, TrL.valAtIdx_eq,
      TrL.toList_ofList, List.getElem?_map, List.getElem?_map]
    cases hti : old.toList[i]? with
    | none =>
      have hri : rs[i]? = none :=
        List.getElem?_eq_none_iff.mpr (hrl ▸ List.getElem?_eq_none_iff.mp hti)
      rw [hri]
      exact .of_none fun _ => ⟨rfl, rfl⟩
    | some ti =>
      obtain ⟨xi, b, hxi, hb, hu⟩ := hget i ti hti
      rw [hxi, hb]
      exact (IH ti xi (A i) b.1 b.2.1 b.2.2 hu p).imp (fun hc => lanesCanon_get _ old hc i ti hti)
        fun hs => TrL.sameChecksPos_get old _ hs i ti b.1 hti
          (by rw [TrL.toList_ofList, List.getElem?_map, hb]; rfl)

theorem updVals_fn (body : Body)
    (ih : ∀ a g es, body.site a = some (g, es) → UpdValsOK P cfg g) :
    UpdValsOK P cfg (.fn body) := by
  intro t x args t' w dd h p
  obtain ⟨old, r0, s0, kids, subs, r, s, d, rfl, hx, hb, rfl, rfl⟩ := update_fn_inv P cfg h
  show UpdVals cfg (body.CanonL old) (Tr.sameChecks.TrL.sameChecks old subs) _ _ _ _
  rcases p with _ | ⟨a | _, p⟩
  · exact .of_none fun _ => ⟨rfl, rfl⟩
  · rw [fnConstraint_leafAt hx, CM.leafAt?_node_key, Tr.valAt_fn_key, Tr.valAt_fn_key]
    have hS := Body.update_sites P cfg old kids body _ _ _ _ _ _ _ _ _ _ hb
    cases hsite : body.site a with
    | none =>
      obtain ⟨e1, e2⟩ := hS.absent a rfl hsite
      rw [e1, e2]
      exact .of_none fun hc => ⟨by rw [Body.canonL_site_none body old hc a hsite]; rfl, rfl⟩
    | some ge =>
      obtain ⟨t1, d1, ⟨sub, xsub, w1, hsub, hxsub, hu⟩, hfF, hdF⟩ :=
        hS.site a ge.1 ge.2 rfl rfl hsite
      rw [hsub, hfF, hdF]
      have IH := ih a ge.1 ge.2 hsite sub (some xsub) _ t1 w1 d1 hu p
      have hcan' : body.CanonL old → ge.1.Canon sub := fun hc => by
        obtain ⟨t0, ht0, hg⟩ := Body.canonL_site_some body old hc a ge.1 ge.2 hsite
        cases ht0.symm.trans hsub
        exact hg
      cases hk : kids.find? a with
      | some c =>
        rw [hk] at hxsub
        cases hxsub
        refine IH.imp hcan' fun hs => ?_
        exact TrL.sameChecks_of_find hs hsub hfF
      | none =>
        -- the handler constrains the callee to its own old choice map
        rw [hk] at hxsub
        rw [show CM.leafAt? (some xsub) p = sub.valAt p from
          Tr.choices_leafAt sub xsub hxsub p] at IH
        exact IH.of_child_self hcan'
  · exact .of_none fun _ => ⟨rfl, rfl⟩

theorem updVals_cond (tg fg : GF) (iht : UpdValsOK P cfg tg) (ihf : UpdValsOK P cfg fg) :
    UpdValsOK P cfg (.cond tg fg) := by
  intro t x args t' w d h p
  obtain ⟨cOld, a, b, xq, a', wa, da, b', wb, db, rfl, hxq, ha, hb, rfl, -, hdisc⟩ :=
    update_cond_inv P cfg h
  have hxq := condConstraint_some cfg hxq
  have A := iht _ _ _ _ _ _ ha p
  have B := ihf _ _ _ _ _ _ hb p
  show UpdVals cfg (tg.Canon a ∧ fg.Canon b) _ _ _ (mergeLeaf cOld (a.valAt p) (b.valAt p))
    (mergeLeaf (args.getD 0 .nil).truthy (a'.valAt p) (b'.valAt p))
  have con : ∀ v, CM.leafAt? xq p = some v →
      ∀ v', mergeLeaf (args.getD 0 .nil).truthy (a'.valAt p) (b'.valAt p) = some v' → v' = v :=
    fun v hq => mergeLeaf_forall (A.con v hq) (B.con v hq)
  have dom : tg.Canon a ∧ fg.Canon b →
      (mergeLeaf (args.getD 0 .nil).truthy (a'.valAt p) (b'.valAt p)).isSome =
        (mergeLeaf cOld (a.valAt p) (b.valAt p)).isSome := fun hc => by
    rw [mergeLeaf_isSome, mergeLeaf_isSome, A.dom hc.1, B.dom hc.2]
  refine ⟨fun v hv => con v (hxq.con cfg p v hv), dom, fun hxn hs hc => ?_, fun hdv hc => ?_⟩
  · rcases hxq with ⟨hf, rfl⟩ | ⟨hf, y, hy, hcase⟩
    · rcases hs with hs | hs
      · rw [Tr.sameChecks.eq_5] at hs
        obtain ⟨rfl, hsa, hsb⟩ := hs
        rw [A.unc hxn (.inl hsa) hc.1, B.unc hxn (.inl hsb) hc.2]
      · rw [hf] at hs
        cases hs
    · -- the old visible value, if any, is a leaf of the completed constraint, so both branches
      -- hold it wherever they have the address
      have hY : y.leafAt p = mergeLeaf cOld (a.valAt p) (b.valAt p) :=
        Tr.choices_leafAt _ y hy p
      refine Option.eq_of_isSome_eq (dom hc) fun v' v hv' hv => con v ?_ v' hv'
      rcases hcase with ⟨_, rfl⟩ | ⟨xc, rfl, rfl⟩
      · exact hY.trans hv
      · exact CM.fill_leafAt_none p y xc v (update_agree P cfg _ _ xc _ _ _ _ h hc y hy) hxn
          (hY.trans hv)
  · have ea := A.dis hdv hc.1
    have eb := B.dis hdv hc.2
    cases da with
    | none => cases hdisc
    | some x1 =>
      cases db with
      | none => cases hdisc
      | some x2 =>
        obtain ⟨dm, hdm, rfl⟩ := Option.map_eq_some_iff.mp ((if_pos hdv).symm.trans hdisc)
        show dm.leafAt p = _
        rw [CM.mergeCheck_leafAt _ _ _ _ hdm p, show x1.leafAt p = _ from ea,
          show x2.leafAt p = _ from eb]

theorem updValsOK_all : ∀ g, UpdValsOK P cfg g := by
  refine GF.induct_sites _ ?_ ?_ ?_ ?_ ?_
  · intro d0 t x args t' w d h p
    obtain ⟨vOld, sOld, v, rfl, hx, rfl, -, rfl⟩ := update_dist_inv P cfg h
    rcases p with _ | _
    · refine ⟨fun u hu v' hv' => ?_, fun _ => rfl, fun hxn _ _ => ?_, fun _ _ => rfl⟩
      · rcases hx with ⟨rfl, _⟩ | rfl
        · cases hu
        · exact (Option.some.inj hv').symm.trans (Option.some.inj hu)
      · rcases hx with ⟨_, rfl⟩ | rfl
        · rfl
        · cases hxn
    · exact .of_none fun _ => ⟨rfl, rfl⟩
  · exact updVals_fn P cfg
  · intro g axes n ih t x args t' w d h p
    obtain ⟨old, xs, rs, rfl, hlen, hxs, hrs, rfl, -, rfl⟩ := update_vmap_inv P cfg h
    exact updVals_lanes P cfg g ih hlen hxs (.of_forLanes hrs) p
  · intro g n ih t x args t' w d h p
    obtain ⟨old, c0, xs, rs, c, rfl, hlen, hxs, hrs, rfl, -, rfl⟩ := update_scan_inv P cfg h
    have hL := LanesRun.of_forSteps (proj := (·.1)) hrs fun _ _ _ _ _ => updStep_some P cfg
    rw [Tr.valAt_scan_eq_vec, Tr.valAt_scan_eq_vec]
    exact updVals_lanes P cfg g ih hlen hxs hL p
  · exact updVals_cond P cfg

theorem updVals_at (g : GF) (t : Tr R) (x : Option CM) (args : List Val) (t' : Tr R) (w : R)
    (d : Option CM) (h : g.update P cfg t x args = some (t', w, d))
    (y y' : CM) (hy : t.choices = some y) (hy' : t'.choices = some y') (p : Path) :
    UpdVals cfg (g.Canon t) (Tr.sameChecks t t') (CM.leafAt? x p) (CM.leafAt? d p) (y.leafAt p)
      (y'.leafAt p) := by
  rw [Tr.choices_leafAt t y hy p, Tr.choices_leafAt t' y' hy' p]
  exact updValsOK_all P cfg g t x args t' w d h p

/-- C03: after `update` with constraint `x`, every address constrained by `x` that exists in the
    new trace's choice map holds `x`'s value — every program (Cond at any depth: the constraint is
    handed to both branches, so whichever branch is visible holds it), every `cfg`. -/
theorem update_constrained_hold_new (g : GF) (t : Tr R) (x : Option CM) (args : List Val)
    (t' : Tr R) (w : R) (d : Option CM) (h : g.update P cfg t x args = some (t', w, d))
    (y' : CM) (hy' : t'.choices = some y') (p : Path) (v : Val) (hv : CM.leafAt? x p = some v)
    (v' : Val) (hv' : y'.leafAt p = some v') : v' = v :=
  (updValsOK_all P cfg g t x args t' w d h p).con v hv v' (Tr.choices_leafAt t' y' hy' p ▸ hv')

theorem update_leaf_domain (g : GF) (t : Tr R) (x : Option CM) (args : List Val)
    (t' : Tr R) (w : R) (d : Option CM) (h : g.update P cfg t x args = some (t', w, d))
    (hcan : g.Canon t) (y y' : CM) (hy : t.choices = some y) (hy' : t'.choices = some y')
    (p : Path) : (y'.leafAt p).isSome = (y.leafAt p).isSome :=
  (updVals_at P cfg g t x args t' w d h y y' hy hy' p).dom hcan

/-- C03: an address that the constraint does not mention keeps its value, provided no Cond
    switched branch.  `hcan`: the old trace has the shape the operations build (without it a junk
    entry of the old trace would disappear). -/
theorem update_unconstrained_keep_old (g : GF) (t : Tr R) (x : Option CM) (args : List Val)
    (t' : Tr R) (w : R) (d : Option CM) (h : g.update P cfg t x args = some (t', w, d))
    (hcan : g.Canon t) (hs : Tr.sameChecks t t')
    (y y' : CM) (hy : t.choices = some y) (hy' : t'.choices = some y')
    (p : Path) (hx : CM.leafAt? x p = none) : y'.leafAt p = y.leafAt p :=
  (updVals_at P cfg g t x args t' w d h y y' hy hy' p).unc hx (.inl hs) hcan

/-- C03, with `cfg.condUpdateFill` (`Cond.update` completes the constraint with the visible old
    choices), the complete value-level description of `update`: the new choice map has the old
    one's addresses, and each holds the constraint's value if the constraint has one there and the
    old visible value otherwise. -/
theorem update_values_fill (hf : cfg.condUpdateFill = true)
    (g : GF) (t : Tr R) (x : Option CM) (args : List Val)
    (t' : Tr R) (w : R) (d : Option CM) (h : g.update P cfg t x args = some (t', w, d))
    (hcan : g.Canon t) (y y' : CM) (hy : t.choices = some y) (hy' : t'.choices = some y')
    (p : Path) : y'.leafAt p = (y.leafAt p).map fun v => (CM.leafAt? x p).getD v := by
  have U := updVals_at P cfg g t x args t' w d h y y' hy hy' p
  cases hx : CM.leafAt? x p with
  | none =>
    rw [U.unc hx (.inr hf) hcan]
    cases y.leafAt p <;> rfl
  | some vx =>
    refine Option.eq_of_isSome_eq ((U.dom hcan).trans (by cases y.leafAt p <;> rfl))
      fun v' u hv' hu => ?_
    obtain ⟨v, -, rfl⟩ := Option.map_eq_some_iff.mp hu
    exact U.con vx hx v' hv'

/-- C03, with `cfg.condDiscardVisible`: the discard holds, at every address of the
    old choice map, the value that was visible there (in this code base `Fn.update` re-constrains
    every call site, so every Distribution reports its old value). -/
theorem update_discard_eq_old (hdv : cfg.condDiscardVisible = true)
    (g : GF) (t : Tr R) (x : Option CM) (args : List Val)
    (t' : Tr R) (w : R) (d : Option CM) (h : g.update P cfg t x args = some (t', w, d))
    (hcan : g.Canon t) (y : CM) (hy : t.choices = some y) (p : Path) :
    CM.leafAt? d p = y.leafAt p :=
  Tr.choices_leafAt t y hy p ▸ (updValsOK_all P cfg g t x args t' w d h p).dis hdv hcan

/-- with `cfg.condUpdateFill = false`, what holds after a branch switch of a Cond
    that receives the constraint directly: an unconstrained address shows the value STORED in the
    branch that is now taken (the non-taken branch's old value, which `condUpdateFill` replaces by
    the visible one), and where only the other branch has the address, that one's. -/
theorem update_cond_switch_values (hf : cfg.condUpdateFill = false)
    (tg fg : GF) (cOld : Bool) (a b : Tr R) (x : Option CM)
    (args : List Val) (t' : Tr R) (w : R) (d : Option CM)
    (h : (GF.cond tg fg).update P cfg (.cond cOld a b) x args = some (t', w, d)) :
    ∃ a' b', t' = .cond (args.getD 0 .nil).truthy a' b' ∧
      (tg.Canon a → fg.Canon b → Tr.sameChecks a a' → Tr.sameChecks b b' →
        ∀ ya yb y', a.choices = some ya → b.choices = some yb → t'.choices = some y' →
        ∀ p, CM.leafAt? x p = none →
          y'.leafAt p = mergeLeaf (args.getD 0 .nil).truthy (ya.leafAt p) (yb.leafAt p)) := by
  obtain ⟨cOld', a0, b0, xq, a', wa, da, b', wb, db, ht, hxq, ha, hb, rfl, -, -⟩ :=
    update_cond_inv P cfg h
  cases ht
  rcases condConstraint_some cfg hxq with ⟨_, rfl⟩ | ⟨hf', _⟩
  · refine ⟨a', b', rfl, fun hca hcb hsa hsb ya yb y' hya hyb hy' p hx => ?_⟩
    obtain ⟨ya', hya', h1⟩ := Option.bind_eq_some_iff.mp hy'
    obtain ⟨yb', hyb', hm'⟩ := Option.bind_eq_some_iff.mp h1
    rw [CM.mergeCheck_leafAt _ _ _ _ hm' p,
      update_unconstrained_keep_old P cfg tg a xq _ a' wa da ha hca hsa ya ya' hya hya' p hx,
      update_unconstrained_keep_old P cfg fg b xq _ b' wb db hb hcb hsb yb yb' hyb hyb' p hx]
  · rw [hf] at hf'
    cases hf'

/-- Below a call site that the constraint does not mention at all, `Fn.update` constrains
    the callee to its own old choice map, so every address below keeps its old VISIBLE value even
    when a Cond below switches branch (no `sameChecks` hypothesis). -/
theorem update_unconstrained_site_keeps_visible (body : Body) (t : Tr R) (x : Option CM)
    (args : List Val) (t' : Tr R) (w : R) (d : Option CM)
    (h : (GF.fn body).update P cfg t x args = some (t', w, d)) (hcan : (GF.fn body).Canon t)
    (y y' : CM) (hy : t.choices = some y) (hy' : t'.choices = some y') (a : String)
    (hx : x = none ∨ ∃ kids, x = some (.node kids) ∧ kids.find? a = none) (p : Path) :
    y'.leafAt (.key a :: p) = y.leafAt (.key a :: p) := by
  obtain ⟨old, r0, s0, kids, subs, r, s, d', rfl, hxk, hb, rfl, rfl⟩ := update_fn_inv P cfg h
  have hk : kids.find? a = none := by
    obtain ⟨-, rfl⟩ | rfl := fnConstraint_some hxk
    · rfl
    · rcases hx with hx | ⟨kids', hx, hk⟩ <;> cases hx
      exact hk
  rw [Tr.choices_leafAt _ y hy, Tr.choices_leafAt _ y' hy', Tr.valAt_fn_key, Tr.valAt_fn_key]
  have hS := Body.update_sites P cfg old kids body _ _ _ _ _ _ _ _ _ _ hb
  cases hsite : body.site a with
  | none => rw [(hS.absent a rfl hsite).1, Body.canonL_site_none body old hcan a hsite]
  | some ge =>
    obtain ⟨t1, d1, ⟨sub, xsub, w1, hsub, hxsub, hu⟩, hfF, -⟩ := hS.site a ge.1 ge.2 rfl rfl hsite
    obtain ⟨t0, ht0, hg⟩ := Body.canonL_site_some body old hcan a ge.1 ge.2 hsite
    cases ht0.symm.trans hsub
    rw [hk] at hxsub
    have U := updValsOK_all P cfg ge.1 sub (some xsub) _ t1 w1 d1 hu p
    rw [show CM.leafAt? (some xsub) p = sub.valAt p from Tr.choices_leafAt sub xsub hxsub p] at U
    rw [hsub, hfF]
    exact U.self hg

end Genjax

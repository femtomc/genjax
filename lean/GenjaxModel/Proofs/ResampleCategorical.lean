import GenjaxModel.Proofs.Resample
import GenjaxModel.Proofs.Smc
/-!
  C12, categorical ("multinomial") resampling: `categorical.sample(log_weights, sample_shape=(N,))`
  (src/genjax/inference/smc.py:160-162) draws N ancestor indices i.i.d. with P(index = i) = w_i/Σw.
  In the finite-expectation vocabulary of `Model/Smc.lean` (`FinDist`, `E`) the expected number of
  copies of particle `i` is `N · w_i / Σ w` (`C12_categorical_unbiased` in `Props/C12.lean`).
  That theorem and its analogue for `Smc.resampleStep` (`C12_resampleStep_unbiased`) are instances
  of `E_replicate_sum` (n independent draws) and `E_map_div` (weights over a common denominator).
-/

namespace Genjax.Resample
open Genjax.Smc Genjax.Smc.FinDist

section defs
variable {K : Type} [Zero K] [One K] [Add K] [Mul K] [Div K]

/-- `categorical(logits = log w)`: index `i < len w` with probability `w_i / Σ w` -/
def categoricalDist (w : List K) : FinDist K Nat :=
  (List.range w.length).map fun i => (i, w.getD i 0 / sum w)

/-- `sample_shape = (n,)`: the ancestor vector of `n` independent categorical draws -/
def multinomial (w : List K) (n : Nat) : FinDist K (List Nat) :=
  FinDist.sequence (List.replicate n (categoricalDist w))

end defs

variable {K : Type} [Field K]

theorem sum_eq_sumK (l : List K) : sum l = sumK l := by
  induction l with
  | nil => rfl
  | cons x xs ih => rw [sum, sumK_cons, ih]

theorem map_getD_range {α : Type} (l : List α) (d : α) :
    (List.range l.length).map (fun i => l.getD i d) = l :=
  List.ext_getElem (by rw [List.length_map, List.length_range]) fun i _ h => by
    rw [List.getElem_map, List.getElem_range, List.getD_eq_getElem _ _ h]

theorem sumK_range_indicator (p : Nat → K) (i m : Nat) :
    sumK ((List.range m).map fun j => p j * (if j = i then 1 else 0)) =
      if i < m then p i else 0 := by
  induction m with
  | zero => exact (if_neg (Nat.not_lt_zero i)).symm
  | succ m ih =>
    rw [List.range_succ, List.map_append, sumK_append, ih, List.map_singleton, sumK_cons,
      sumK_nil, add_zero]
    rcases Nat.lt_trichotomy i m with h | rfl | h
    · rw [if_pos h, if_neg h.ne', if_pos (Nat.lt_succ_of_lt h), mul_zero, add_zero]
    · rw [if_neg (Nat.lt_irrefl _), if_pos rfl, if_pos (Nat.lt_succ_self _), mul_one, zero_add]
    · rw [if_neg (Nat.lt_asymm h), if_neg h.ne, if_neg (Nat.not_lt.2 h), mul_zero, add_zero]

theorem copies_eq_sumK (idx : List Nat) (i : Nat) :
    ((copies idx i : Nat) : K) = sumK (idx.map fun j => if j = i then (1 : K) else 0) := by
  induction idx with
  | nil => exact Nat.cast_zero
  | cons x xs ih =>
    rw [List.map_cons, sumK_cons, ← ih, copies, copies, List.count_cons, Nat.cast_add, add_comm,
      Nat.cast_ite, Nat.cast_one, Nat.cast_zero]
    simp only [beq_iff_eq]

/-! ### finite distributions: weights over a common denominator, independent draws -/

theorem E_map_div {α β : Type} (l : List α) (g : α → β) (wt : α → K) (s : K) (f : β → K) :
    E (l.map fun a => (g a, wt a / s)) f = sumK (l.map fun a => wt a * f (g a)) / s := by
  simp only [E, List.map_map, Function.comp_def, div_mul_eq_mul_div]
  exact sumK_map_div l _ _

theorem mass_map_div {α β : Type} (l : List α) (g : α → β) (wt : α → K) (s : K) :
    mass (l.map fun a => (g a, wt a / s)) = sumK (l.map wt) / s := by
  rw [mass, E_map_div]
  simp only [mul_one]

theorem E_replicate_sum {α : Type} (d : FinDist K α) (hm : mass d = 1) (n : Nat) (f : α → K) :
    E (FinDist.sequence (List.replicate n d)) (fun as => sumK (as.map f)) = (n : K) * E d f := by
  rw [E_sequence_sum _ fun d' hd => by rwa [List.eq_of_mem_replicate hd], List.map_replicate,
    sumK_replicate]

/-! ### `categoricalDist` and `multinomial` -/

theorem mass_categoricalDist (w : List K) (hs : sum w ≠ 0) : mass (categoricalDist w) = 1 := by
  rw [categoricalDist, mass_map_div, map_getD_range, ← sum_eq_sumK, div_self hs]

/-- P(index = i) = w_i / Σ w -/
theorem E_categoricalDist_indicator (w : List K) (i : Nat) (hi : i < w.length) :
    E (categoricalDist w) (fun j => if j = i then (1 : K) else 0) = w.getD i 0 / sum w := by
  rw [categoricalDist, E_map_div, sumK_range_indicator (fun j => w.getD j 0), if_pos hi]

theorem multinomial_length (w : List K) (n : Nat) (idx : List Nat)
    (h : idx ∈ supp (multinomial w n)) : idx.length = n := by
  rw [multinomial] at h
  rw [length_of_mem_supp_sequence _ _ h, List.length_replicate]

theorem mass_multinomial (w : List K) (n : Nat) (hs : sum w ≠ 0) : mass (multinomial w n) = 1 :=
  mass_sequence _ fun d hd => by
    rw [List.eq_of_mem_replicate hd]; exact mass_categoricalDist w hs

end Genjax.Resample

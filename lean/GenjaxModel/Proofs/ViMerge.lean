import GenjaxModel.Model.GfiDist
import GenjaxModel.Proofs.GfiAssessCond
/-!
  `Fn.merge(x, x_)` without a check (`CML.mergeNoCheck`, core.py:2222-2263), as `elbo_factory` and
  `init` / `extend` of smc.py call it: what the merged dict holds at every address (`mergeAt`), that
  the merge of two dicts never raises, and that the Assess handler reads a dict only through address
  lookups (so that on disjoint dicts the merged map can be replaced by the concatenation `CML.app`).
-/
namespace Genjax.Vi
open Genjax

/-- what `Fn.merge(x, x_)` (no check) leaves at an address, from what the two sides carry there:
    two dicts merge recursively, otherwise the second side wins, keys of one side only are kept -/
def mergeAt : Option CM → Option CM → Option CM
  | some (.node u), some (.node v) => (CML.mergeNoCheck u v).map .node
  | _, some v => some v
  | u, none => u

theorem mergeAt_none_right (u : Option CM) : mergeAt u none = u := by
  cases u with
  | none => rfl
  | some c => cases c <;> rfl

theorem mergeAt_none_left (v : Option CM) : mergeAt none v = v := by
  cases v <;> rfl

theorem mergeAt_second_wins (c c' : CM) (h : ∀ u v, c = .node u → c' = .node v → False) :
    mergeAt (some c) (some c') = some c' := by
  cases c with
  | node u =>
    cases c' with
    | node v => exact (h u v rfl rfl).elim
    | leaf _ => rfl
    | lanes _ => rfl
  | leaf _ => rfl
  | lanes _ => rfl

theorem CML.erase_of_find?_none : ∀ (b : CML) (k : String), b.find? k = none → b.erase k = b
  | .nil, _, _ => by rw [CML.erase]
  | .cons k' v rest, k, h => by
    rw [CML.find?] at h
    split at h
    · cases h
    · rename_i hk
      rw [CML.erase, if_neg hk, CML.erase_of_find?_none rest k h]

theorem CML.mergeNoCheck_cons (k : String) (v : CM) (rest b : CML) :
    CML.mergeNoCheck (.cons k v rest) b
      = (mergeAt (some v) (b.find? k)).bind fun c =>
          (CML.mergeNoCheck rest (b.erase k)).map (.cons k c) := by
  rw [CML.mergeNoCheck]
  cases hb : b.find? k with
  | none =>
    rw [CML.erase_of_find?_none b k hb]
    cases v <;> cases CML.mergeNoCheck rest b <;> rfl
  | some v' =>
    cases v with
    | node a =>
      cases v' with
      | node a' =>
        cases h : CML.mergeNoCheck a a' <;> cases CML.mergeNoCheck rest (b.erase k) <;>
          simp only [mergeAt, h] <;> rfl
      | leaf _ => cases CML.mergeNoCheck rest (b.erase k) <;> rfl
      | lanes _ => cases CML.mergeNoCheck rest (b.erase k) <;> rfl
    | leaf _ => cases CML.mergeNoCheck rest (b.erase k) <;> rfl
    | lanes _ => cases CML.mergeNoCheck rest (b.erase k) <;> rfl

theorem CML.mergeNoCheck_total (a : CML) : ∀ b, ∃ m, CML.mergeNoCheck a b = some m := by
  refine CML.rec (motive_1 := fun c => ∀ u, c = .node u → ∀ b, ∃ m, CML.mergeNoCheck u b = some m)
    (motive_2 := fun a => ∀ b, ∃ m, CML.mergeNoCheck a b = some m) ?_ ?_ ?_ ?_ ?_ a
  · intro _ _ h; cases h
  · intro _ ih _ h; cases h; exact ih
  · intro _ _ _ h; cases h
  · intro b; exact ⟨b, by rw [CML.mergeNoCheck]⟩
  · intro k v rest ihv ihrest b
    obtain ⟨r, hr⟩ := ihrest (b.erase k)
    rw [CML.mergeNoCheck_cons, hr]
    cases hb : b.find? k with
    | none => rw [mergeAt_none_right]; exact ⟨_, rfl⟩
    | some v' =>
      cases v with
      | node u =>
        cases v' with
        | node u' =>
          obtain ⟨m, hm⟩ := ihv u rfl u'
          exact ⟨_, by simp only [mergeAt, hm]; rfl⟩
        | leaf _ => exact ⟨_, rfl⟩
        | lanes _ => exact ⟨_, rfl⟩
      | leaf _ => exact ⟨_, rfl⟩
      | lanes _ => exact ⟨_, rfl⟩

theorem CM.mergeNoCheck_total_aux : (c : CM) → ∀ u, c = .node u → ∀ b,
    ∃ m, CML.mergeNoCheck u b = some m :=
  fun _ u _ => CML.mergeNoCheck_total u

theorem CM.mergeNoCheck_node (a b : CML) :
    CM.mergeNoCheck (.node a) (.node b) = (CML.mergeNoCheck a b).map .node := by
  rw [CM.mergeNoCheck]

theorem CML.find?_mergeNoCheck : ∀ (a b m : CML), CML.mergeNoCheck a b = some m →
    ∀ k, m.find? k = mergeAt (a.find? k) (b.find? k)
  | .nil, b, m, h, k => by
    rw [CML.mergeNoCheck, Option.some.injEq] at h
    rw [← h, CML.find?, mergeAt_none_left]
  | .cons k' v rest, b, m, h, k => by
    rw [CML.mergeNoCheck_cons] at h
    obtain ⟨c, hc, h⟩ := Option.bind_eq_some_iff.mp h
    obtain ⟨r, hr, rfl⟩ := Option.map_eq_some_iff.mp h
    rw [CML.find?, CML.find?]
    split
    · rename_i hk; rw [hk, hc]
    · rename_i hk
      rw [CML.find?_mergeNoCheck rest _ r hr k, Genjax.CML.find?_erase_ne b k' k hk]

/-- concatenation of two dicts (the pair "(x, z)" as one map) -/
def CML.app : CML → CML → CML
  | .nil, b => b
  | .cons k v rest, b => .cons k v (CML.app rest b)

theorem CML.find?_app : ∀ (a b : CML) (k : String),
    (CML.app a b).find? k = (a.find? k).or (b.find? k)
  | .nil, b, k => by rw [CML.app, CML.find?, Option.none_or]
  | .cons k' v rest, b, k => by
    rw [CML.app, CML.find?, CML.find?]
    split
    · rfl
    · exact CML.find?_app rest b k

/-- the Assess handler reads the choice map only through `find?` (log domain) -/
theorem Body.assess_congr_find {R : Type} [Zero R] [Add R] (P : Prims R) :
    ∀ (body : Body) (x x' : CML) (env : List Val) (seen : List String),
      (∀ k, x.find? k = x'.find? k) → body.assess P x env seen = body.assess P x' env seen
  | .ret e, x, x', env, seen, _ => by rw [Body.assess, Body.assess]
  | .call addr g es rest, x, x', env, seen, h => by
    have ih := fun env seen => Body.assess_congr_find P rest x x' env seen h
    simp only [Body.assess, h addr, ih]

theorem Body.assessP_congr_find {K : Type} [One K] [Mul K] (pd : PD K) :
    ∀ (body : Body) (x x' : CML) (env : List Val) (seen : List String),
      (∀ k, x.find? k = x'.find? k) → body.assessP pd x env seen = body.assessP pd x' env seen
  | .ret e, x, x', env, seen, _ => by rw [Body.assessP, Body.assessP]
  | .call addr g es rest, x, x', env, seen, h => by
    have ih := fun env seen => Body.assessP_congr_find pd rest x x' env seen h
    simp only [Body.assessP, h addr, ih]

end Genjax.Vi

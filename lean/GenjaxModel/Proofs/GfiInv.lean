import GenjaxModel.Proofs.GfiLoops
/-!
  Induction principles for the mutual types of the model, and inversion of the GFI operations, one
  lemma per operation and program constructor; inductions over programs use these instead of
  unfolding the operations.  A lemma `…_inv` gives the consequences of a successful call; a lemma
  `…_iff` is an equivalence, stated where proofs also build calls: all of `assess` (on another
  choice map) and the program constructors of `simulate` (from an unconstrained `generate`).

  The inversions name what the model writes inline: the function a Scan operation iterates
  (`…Step`), the pieces from which `update` and `regenerate` prepare a constraint (`fnConstraint`,
  `laneConstraints`, `condConstraint`) and assemble the result of a Cond (`condWeight`,
  `updCondDiscard`, `regenCondDiscard`).
-/
namespace Genjax

/-! ### induction principles

  With `apply GF.rec_both` the motives are read off a goal `(∀ g, …) ∧ ∀ b, …`. -/

theorem GF.rec_both {motive_1 : GF → Prop} {motive_2 : Body → Prop}
    (dist : ∀ d, motive_1 (.dist d)) (fn : ∀ body, motive_2 body → motive_1 (.fn body))
    (vmap : ∀ g axes n, motive_1 g → motive_1 (.vmap g axes n))
    (scan : ∀ g n, motive_1 g → motive_1 (.scan g n))
    (cond : ∀ t f, motive_1 t → motive_1 f → motive_1 (.cond t f))
    (ret : ∀ e, motive_2 (.ret e))
    (call : ∀ addr g es rest, motive_1 g → motive_2 rest → motive_2 (.call addr g es rest)) :
    (∀ g, motive_1 g) ∧ ∀ b, motive_2 b :=
  ⟨GF.rec dist fn vmap scan cond ret call, Body.rec dist fn vmap scan cond ret call⟩

theorem CM.rec_both {motive_1 : CM → Prop} {motive_2 : CML → Prop}
    (leaf : ∀ v, motive_1 (.leaf v)) (node : ∀ kids, motive_2 kids → motive_1 (.node kids))
    (lanes : ∀ kids, motive_2 kids → motive_1 (.lanes kids)) (nil : motive_2 .nil)
    (cons : ∀ k v rest, motive_1 v → motive_2 rest → motive_2 (.cons k v rest)) :
    (∀ x, motive_1 x) ∧ ∀ l, motive_2 l :=
  ⟨CM.rec leaf node lanes nil cons, CML.rec leaf node lanes nil cons⟩

theorem Tr.rec_both {R : Type} {motive_1 : Tr R → Prop} {motive_2 : TrL R → Prop}
    (leaf : ∀ v score, motive_1 (.leaf v score))
    (fn : ∀ subs ret score, motive_2 subs → motive_1 (.fn subs ret score))
    (vec : ∀ lanes, motive_2 lanes → motive_1 (.vec lanes))
    (scan : ∀ steps carry, motive_2 steps → motive_1 (.scan steps carry))
    (cond : ∀ check t f, motive_1 t → motive_1 f → motive_1 (.cond check t f))
    (nil : motive_2 .nil)
    (cons : ∀ k t rest, motive_1 t → motive_2 rest → motive_2 (.cons k t rest)) :
    (∀ t, motive_1 t) ∧ ∀ l, motive_2 l :=
  ⟨Tr.rec leaf fn vec scan cond nil cons, TrL.rec leaf fn vec scan cond nil cons⟩

theorem Body.list_induction {motive : Body → Prop} (ret : ∀ e, motive (.ret e))
    (call : ∀ addr g es rest, motive rest → motive (.call addr g es rest)) : ∀ b, motive b :=
  (GF.rec_both (motive_1 := fun _ => True) (fun _ => trivial) (fun _ _ => trivial)
    (fun _ _ _ _ => trivial) (fun _ _ _ => trivial) (fun _ _ _ _ => trivial) ret
    fun addr g es rest _ => call addr g es rest).2

theorem CML.list_induction {motive : CML → Prop} (nil : motive .nil)
    (cons : ∀ k v rest, motive rest → motive (.cons k v rest)) : ∀ l, motive l :=
  (CM.rec_both (motive_1 := fun _ => True) (fun _ => trivial) (fun _ _ => trivial)
    (fun _ _ => trivial) nil fun k v rest _ => cons k v rest).2

theorem TrL.list_induction {R : Type} {motive : TrL R → Prop} (nil : motive .nil)
    (cons : ∀ k t rest, motive rest → motive (.cons k t rest)) : ∀ l, motive l :=
  (Tr.rec_both (motive_1 := fun _ => True) (fun _ _ => trivial) (fun _ _ _ _ => trivial)
    (fun _ _ => trivial) (fun _ _ _ => trivial) (fun _ _ _ _ _ => trivial) nil
    fun k t rest _ => cons k t rest).2

/-! ### the length check of Vmap and Scan -/

theorem lenIs_eq_some_iff {α : Type} {l : List α} {n : Nat} {u : Unit} :
    lenIs l n = some u ↔ l.length = n := by
  unfold lenIs
  split <;> simp [*]

theorem lenIs_eq_some {α : Type} {l : List α} {n : Nat} {u : Unit} (h : lenIs l n = some u) :
    l.length = n :=
  lenIs_eq_some_iff.mp h

/-! ### `assess` -/

section Assess
variable {R : Type} [Zero R] [Add R] (P : Prims R)
variable {g tg fg : GF} {body rest : Body} {axes : List Bool} {n i : Nat} {args env : List Val}
  {x : CM} {r : R × Val} {addr : String} {es : List Expr} {c : Val}

/-- one step of `Scan.assess`: the callee on `[carry, xs[i]]`; its return value is the pair
    (next carry, output) -/
def assessStep (g : GF) (args : List Val) (c : Val) (i : Nat) (xi : CM) : Option ((R × Val) × Val) := do
  let p ← g.assess P xi [c, (args.getD 1 .nil).nth i]
  pure ((p.1, p.2.snd), p.2.fst)

theorem assessStep_iff {xi : CM} {q : (R × Val) × Val} :
    assessStep P g args c i xi = some q ↔
      ∃ p, g.assess P xi [c, (args.getD 1 .nil).nth i] = some p ∧ ((p.1, p.2.snd), p.2.fst) = q := by
  simp only [assessStep, Option.bind_eq_bind, Option.bind_eq_some_iff, Option.pure_def,
    Option.some.injEq]

theorem GF.assess_dist_iff {d : Nat} :
    (GF.dist d).assess P x args = some r ↔ ∃ v, x = .leaf v ∧ (P.lp d args v, v) = r := by
  cases x <;> simp only [GF.assess, Option.some.injEq, reduceCtorEq, false_and, exists_false,
    exists_eq_left', CM.leaf.injEq]

theorem GF.assess_fn_iff :
    (GF.fn body).assess P x args = some r ↔ ∃ xl, x = .node xl ∧ body.assess P xl args [] = some r := by
  cases x <;> simp only [GF.assess, reduceCtorEq, false_and, exists_false, exists_eq_left',
    CM.node.injEq]

theorem GF.assess_vmap_iff :
    (GF.vmap g axes n).assess P x args = some r ↔
      ∃ xl, x = .lanes xl ∧ xl.toList.length = n ∧
        ∃ rs, forLanes (fun i xi => g.assess P xi (laneArgs axes args i)) 0 xl.toList = some rs ∧
          (sumR (rs.map (·.1)), Val.ofList (rs.map (·.2))) = r := by
  cases x <;> simp only [GF.assess, Option.bind_eq_bind, Option.bind_eq_some_iff, Option.pure_def,
    Option.some.injEq, lenIs_eq_some_iff, reduceCtorEq, false_and, exists_false, exists_const,
    exists_eq_left', CM.lanes.injEq]

theorem GF.assess_scan_iff :
    (GF.scan g n).assess P x args = some r ↔
      ∃ xl, x = .lanes xl ∧ xl.toList.length = n ∧
        ∃ rs, forSteps (assessStep P g args) (args.getD 0 .nil) 0 xl.toList = some rs ∧
          (sumR (rs.1.map (·.1)), Val.pair rs.2 (Val.ofList (rs.1.map (·.2)))) = r := by
  cases x <;> simp only [GF.assess, Option.bind_eq_bind, Option.bind_eq_some_iff, Option.pure_def,
    Option.some.injEq, lenIs_eq_some_iff, reduceCtorEq, false_and, exists_false, exists_const,
    exists_eq_left', CM.lanes.injEq]
  rfl

theorem GF.assess_cond_iff :
    (GF.cond tg fg).assess P x args = some r ↔
      ∃ p, tg.assess P x (args.drop 1) = some p ∧ ∃ q, fg.assess P x (args.drop 1) = some q ∧
        (if (args.getD 0 .nil).truthy then p.1 else q.1,
          if (args.getD 0 .nil).truthy then p.2 else q.2) = r := by
  simp only [GF.assess, Option.bind_eq_bind, Option.bind_eq_some_iff, Option.pure_def,
    Option.some.injEq]

theorem Body.assess_call_iff {x : CML} {seen : List String} :
    (Body.call addr g es rest).assess P x env seen = some r ↔
      addr ∉ seen ∧ ∃ sub, x.find? addr = some sub ∧
        ∃ p, g.assess P sub (es.map (·.eval env)) = some p ∧
        ∃ q, rest.assess P x (env ++ [p.2]) (addr :: seen) = some q ∧ (p.1 + q.1, q.2) = r := by
  by_cases hs : seen.contains addr = true
  · simp only [Body.assess, hs, if_true, reduceCtorEq, List.contains_iff_mem.mp hs,
      not_true_eq_false, false_and]
  · cases hx : x.find? addr <;>
      simp only [Body.assess, hs, hx, if_false, reduceCtorEq, mt List.contains_iff_mem.mpr hs,
        not_false_eq_true, true_and, false_and, exists_false, Option.some.injEq, exists_eq_left',
        Option.bind_eq_bind, Option.bind_eq_some_iff, Option.pure_def]

end Assess

variable {R : Type} [Zero R] [Add R] [Neg R] (P : Prims R) (cfg : Cfg)
variable {g tg fg : GF} {body rest : Body} {axes : List Bool} {n i : Nat} {args env : List Val}
  {t t' : Tr R} {w : R} {x dd : Option CM} {addr : String} {es : List Expr} {subs : TrL R} {c c' : Val}

/-! ### `simulate` -/

def simStep (g : GF) (args : List Val) : Val → Nat → Unit → Option (Tr R × Val) :=
  fun c i _ => do
    let t ← g.simulate P [c, (args.getD 1 .nil).nth i]
    pure (t, t.retval.fst)

theorem simStep_some {u : Unit} (h : simStep P g args c i u = some (t, c')) :
    g.simulate P [c, (args.getD 1 .nil).nth i] = some t ∧ c' = t.retval.fst := by
  obtain ⟨t1, ht, e⟩ := Option.bind_eq_some_iff.mp h
  cases e
  exact ⟨ht, rfl⟩

theorem simulate_fn_iff :
    (GF.fn body).simulate P args = some t ↔
      ∃ subs r s, body.simulate P args .nil 0 = some (subs, r, s) ∧ t = .fn subs r s := by
  constructor
  · intro h
    obtain ⟨⟨subs, r, s⟩, hb, e⟩ := Option.bind_eq_some_iff.mp h
    cases e
    exact ⟨_, _, _, hb, rfl⟩
  · rintro ⟨subs, r, s, hb, rfl⟩
    exact Option.bind_eq_some_iff.mpr ⟨_, hb, rfl⟩

theorem simulate_vmap_iff :
    (GF.vmap g axes n).simulate P args = some t ↔
      ∃ ts, forLanes (fun i (_ : Unit) => g.simulate P (laneArgs axes args i)) 0 (List.replicate n ())
        = some ts ∧ t = .vec (TrL.ofList ts) := by
  constructor
  · intro h
    obtain ⟨ts, hts, e⟩ := Option.bind_eq_some_iff.mp h
    cases e
    exact ⟨_, hts, rfl⟩
  · rintro ⟨ts, hts, rfl⟩
    exact Option.bind_eq_some_iff.mpr ⟨_, hts, rfl⟩

theorem simulate_scan_iff :
    (GF.scan g n).simulate P args = some t ↔
      ∃ ts c, forSteps (simStep P g args) (args.getD 0 .nil) 0 (List.replicate n ()) = some (ts, c) ∧
        t = .scan (TrL.ofList ts) c := by
  constructor
  · intro h
    obtain ⟨⟨ts, c⟩, hts, e⟩ := Option.bind_eq_some_iff.mp h
    cases e
    exact ⟨_, _, hts, rfl⟩
  · rintro ⟨ts, c, hts, rfl⟩
    exact Option.bind_eq_some_iff.mpr ⟨_, hts, rfl⟩

theorem simulate_cond_iff :
    (GF.cond tg fg).simulate P args = some t ↔
      ∃ a b, tg.simulate P (args.drop 1) = some a ∧ fg.simulate P (args.drop 1) = some b ∧
        t = .cond (args.getD 0 .nil).truthy a b := by
  constructor
  · intro h
    obtain ⟨a, ha, h⟩ := Option.bind_eq_some_iff.mp h
    obtain ⟨b, hb, e⟩ := Option.bind_eq_some_iff.mp h
    cases e
    exact ⟨_, _, ha, hb, rfl⟩
  · rintro ⟨a, b, ha, hb, rfl⟩
    exact Option.bind_eq_some_iff.mpr ⟨_, ha, Option.bind_eq_some_iff.mpr ⟨_, hb, rfl⟩⟩

theorem simulate_call_inv {s : R} {res : TrL R × Val × R}
    (h : (Body.call addr g es rest).simulate P env subs s = some res) :
    subs.find? addr = none ∧ ∃ t, g.simulate P (es.map (·.eval env)) = some t ∧
      rest.simulate P (env ++ [t.retval]) (subs.snoc addr t) (s + t.score) = some res := by
  unfold Body.simulate at h
  split at h
  · cases h
  · rename_i hn
    obtain ⟨t, ht, hrest⟩ := Option.bind_eq_some_iff.mp h
    exact ⟨by simpa using hn, t, ht, hrest⟩

/-! ### `generate` -/

/-- per-step function of `Scan.generate`; `x` makes the step's constraint of the list element
    (`fun _ => none` without constraints, `some` on the lanes of a constraint map) -/
def genStep (g : GF) (args : List Val) {α : Type} (x : α → Option CM) :
    Val → Nat → α → Option ((Tr R × R) × Val) :=
  fun c i a => do
    let (t, w) ← g.generate P cfg (x a) [c, (args.getD 1 .nil).nth i]
    pure ((t, w), t.retval.fst)

theorem genStep_some {α : Type} {x : α → Option CM}
    {a : α} {b : Tr R × R} (h : genStep P cfg g args x c i a = some (b, c')) :
    g.generate P cfg (x a) [c, (args.getD 1 .nil).nth i] = some b ∧ c' = b.1.retval.fst := by
  obtain ⟨b', hb, e⟩ := Option.bind_eq_some_iff.mp h
  cases e
  exact ⟨hb, rfl⟩

theorem generate_dist_inv {d : Nat} {x : CM}
    (h : (GF.dist d).generate P cfg (some x) args = some (t, w)) :
    ∃ v, x = .leaf v ∧ t = .leaf v (-(P.lp d args v)) ∧ w = P.lp d args v := by
  cases x with
  | leaf v => cases h; exact ⟨_, rfl, rfl, rfl⟩
  | _ => cases h

theorem generate_fn_none_inv (h : (GF.fn body).generate P cfg none args = some (t, w)) :
    ∃ subs r s, body.simulate P args .nil 0 = some (subs, r, s) ∧ t = .fn subs r s ∧ w = 0 := by
  obtain ⟨⟨subs, r, s⟩, hb, e⟩ := Option.bind_eq_some_iff.mp h
  cases e
  exact ⟨_, _, _, hb, rfl, rfl⟩

theorem generate_fn_inv {x : CM} (h : (GF.fn body).generate P cfg (some x) args = some (t, w)) :
    ∃ kids subs r s, x = .node kids ∧
      body.generate P cfg kids args .nil 0 0 = some (subs, r, s, w) ∧ t = .fn subs r s := by
  cases x with
  | node kids =>
    obtain ⟨⟨subs, r, s, w'⟩, hb, e⟩ := Option.bind_eq_some_iff.mp h
    cases e
    exact ⟨_, _, _, _, rfl, hb, rfl⟩
  | _ => cases h

theorem generate_vmap_none_inv (h : (GF.vmap g axes n).generate P cfg none args = some (t, w)) :
    (cfg.vmapEmptyConstraint || !axes.any id) = true ∧
    ∃ ts, forLanes (fun i (_ : Unit) => g.generate P cfg none (laneArgs axes args i)) 0
        (List.replicate n ()) = some ts ∧
      t = .vec (TrL.ofList (ts.map (·.1))) ∧ w = sumR (ts.map (·.2)) := by
  unfold GF.generate at h
  split at h
  · rename_i hc
    obtain ⟨ts, hts, e⟩ := Option.bind_eq_some_iff.mp h
    cases e
    exact ⟨hc, _, hts, rfl, rfl⟩
  · cases h

theorem generate_vmap_inv {x : CM}
    (h : (GF.vmap g axes n).generate P cfg (some x) args = some (t, w)) :
    ∃ xs ts, x = .lanes xs ∧ xs.toList.length = n ∧
      forLanes (fun i xi => g.generate P cfg (some xi) (laneArgs axes args i)) 0 xs.toList = some ts ∧
      t = .vec (TrL.ofList (ts.map (·.1))) ∧ w = sumR (ts.map (·.2)) := by
  cases x with
  | lanes xs =>
    obtain ⟨u, hlen, h⟩ := Option.bind_eq_some_iff.mp h
    obtain ⟨ts, hts, e⟩ := Option.bind_eq_some_iff.mp h
    cases e
    exact ⟨_, _, rfl, lenIs_eq_some hlen, hts, rfl, rfl⟩
  | _ => cases h

theorem generate_scan_none_inv (h : (GF.scan g n).generate P cfg none args = some (t, w)) :
    ∃ ts c, forSteps (genStep P cfg g args fun _ => none) (args.getD 0 .nil) 0 (List.replicate n ())
        = some (ts, c) ∧
      t = .scan (TrL.ofList (ts.map (·.1))) c ∧ w = sumR (ts.map (·.2)) := by
  obtain ⟨⟨ts, c⟩, hts, e⟩ := Option.bind_eq_some_iff.mp h
  cases e
  exact ⟨_, _, hts, rfl, rfl⟩

theorem generate_scan_inv {x : CM} (h : (GF.scan g n).generate P cfg (some x) args = some (t, w)) :
    ∃ xs ts c, x = .lanes xs ∧ xs.toList.length = n ∧
      forSteps (genStep P cfg g args some) (args.getD 0 .nil) 0 xs.toList = some (ts, c) ∧
      t = .scan (TrL.ofList (ts.map (·.1))) c ∧ w = sumR (ts.map (·.2)) := by
  cases x with
  | lanes xs =>
    obtain ⟨u, hlen, h⟩ := Option.bind_eq_some_iff.mp h
    obtain ⟨⟨ts, c⟩, hts, e⟩ := Option.bind_eq_some_iff.mp h
    cases e
    exact ⟨_, _, _, rfl, lenIs_eq_some hlen, hts, rfl, rfl⟩
  | _ => cases h

theorem generate_cond_none_inv (h : (GF.cond tg fg).generate P cfg none args = some (t, w)) :
    ∃ a b, tg.simulate P (args.drop 1) = some a ∧ fg.simulate P (args.drop 1) = some b ∧
      t = .cond (args.getD 0 .nil).truthy a b ∧ w = 0 := by
  obtain ⟨a, ha, h⟩ := Option.bind_eq_some_iff.mp h
  obtain ⟨b, hb, e⟩ := Option.bind_eq_some_iff.mp h
  cases e
  exact ⟨_, _, ha, hb, rfl, rfl⟩

theorem generate_cond_inv {x : CM}
    (h : (GF.cond tg fg).generate P cfg (some x) args = some (t, w)) :
    ∃ a wa b wb, tg.generate P cfg (some x) (args.drop 1) = some (a, wa) ∧
      fg.generate P cfg (some x) (args.drop 1) = some (b, wb) ∧
      t = .cond (args.getD 0 .nil).truthy a b ∧
      w = if (args.getD 0 .nil).truthy then wa else wb := by
  obtain ⟨⟨a, wa⟩, ha, h⟩ := Option.bind_eq_some_iff.mp h
  obtain ⟨⟨b, wb⟩, hb, e⟩ := Option.bind_eq_some_iff.mp h
  cases e
  exact ⟨_, _, _, _, ha, hb, rfl, rfl⟩

theorem generate_call_inv {x : CML} {s w : R} {res : TrL R × Val × R × R}
    (h : (Body.call addr g es rest).generate P cfg x env subs s w = some res) :
    subs.find? addr = none ∧ ∃ t w',
      g.generate P cfg (x.find? addr) (es.map (·.eval env)) = some (t, w') ∧
      rest.generate P cfg x (env ++ [t.retval]) (subs.snoc addr t) (s + t.score) (w + w') = some res := by
  unfold Body.generate at h
  split at h
  · cases h
  · rename_i hn
    obtain ⟨⟨t, w'⟩, ht, hrest⟩ := Option.bind_eq_some_iff.mp h
    exact ⟨by simpa using hn, t, w', ht, hrest⟩

/-! ### `update` -/

/-- the children `Fn.update` hands to the Update handler -/
def fnConstraint : Option CM → Option CML
  | none => some .nil
  | some (.node kids) => some kids
  | some _ => none

/-- the per-lane / per-step constraints of `Vmap.update` and `Scan.update` -/
def laneConstraints (n : Nat) : Option CM → Option (List (Option CM))
  | none => some (List.replicate n none)
  | some (.lanes l) => if l.toList.length = n then some (l.toList.map some) else none
  | some _ => none

theorem laneConstraints_some {xs : List (Option CM)} (h : laneConstraints n x = some xs) :
    x = none ∧ xs = List.replicate n none ∨
      ∃ l, x = some (.lanes l) ∧ l.toList.length = n ∧ xs = l.toList.map some := by
  unfold laneConstraints at h
  split at h
  · exact .inl ⟨rfl, (Option.some.inj h).symm⟩
  · split at h
    · rename_i hl
      exact .inr ⟨_, rfl, hl, (Option.some.inj h).symm⟩
    · cases h
  · cases h

theorem laneConstraints_length {xs : List (Option CM)}
    (h : laneConstraints n x = some xs) : xs.length = n := by
  obtain ⟨-, rfl⟩ | ⟨l, -, hl, rfl⟩ := laneConstraints_some h
  · exact List.length_replicate
  · rw [List.length_map, hl]

/-- the constraint `Cond.update` hands to both branches -/
def condConstraint (t : Tr R) (x : Option CM) : Option (Option CM) :=
  if cfg.condUpdateFill then
    t.choices.map fun vis => some (match (generalizing := false) x with | none => vis | some xc => CM.fill vis xc)
  else some x

/-- the discard of `Cond.update` from those of the branches -/
def updCondDiscard (cOld : Bool) : Option CM → Option CM → Option (Option CM)
  | some x1, some x2 =>
      if cfg.condDiscardVisible then (CM.mergeCheck cOld x1 x2).map some
      else (CM.mergeNoCheck x1 x2).map some
  | _, _ => none

/-- weight of `Cond.update` / `Cond.regenerate` from the branch weights `wa`, `wb` -/
def condWeight (cOld : Bool) (a b : Tr R) (args : List Val) (wa wb : R) : R :=
  if cfg.condSwitchCorrection then
    (if (args.getD 0 .nil).truthy then wa else wb) +
      ((if cOld then a.score else b.score) + -(if (args.getD 0 .nil).truthy then a.score else b.score))
  else if (args.getD 0 .nil).truthy then wa else wb

def updStep (g : GF) (args : List Val) : Val → Nat → Tr R × Option CM → Option (Upd R × Val) :=
  fun c i p => do
    let (t, w, d) ← g.update P cfg p.1 p.2 [c, (args.getD 1 .nil).nth i]
    pure ((t, w, d), t.retval.fst)

theorem updStep_some {p : Tr R × Option CM}
    {b : Upd R} (h : updStep P cfg g args c i p = some (b, c')) :
    g.update P cfg p.1 p.2 [c, (args.getD 1 .nil).nth i] = some b ∧ c' = b.1.retval.fst := by
  obtain ⟨b', hb, e⟩ := Option.bind_eq_some_iff.mp h
  cases e
  exact ⟨hb, rfl⟩

theorem update_dist_inv {d : Nat} (h : (GF.dist d).update P cfg t x args = some (t', w, dd)) :
    ∃ vOld sOld v, t = .leaf vOld sOld ∧ (x = none ∧ v = vOld ∨ x = some (.leaf v)) ∧
      t' = .leaf v (-(P.lp d args v)) ∧ w = P.lp d args v + sOld ∧ dd = some (.leaf vOld) := by
  cases t with
  | leaf vOld sOld =>
    rcases x with _ | (v | _ | _)
    · cases h; exact ⟨_, _, _, rfl, .inl ⟨rfl, rfl⟩, rfl, rfl, rfl⟩
    · cases h; exact ⟨_, _, _, rfl, .inr rfl, rfl, rfl, rfl⟩
    · cases h
    · cases h
  | _ => cases h

theorem update_fn_inv (h : (GF.fn body).update P cfg t x args = some (t', w, dd)) :
    ∃ old r0 s0 kids subs r s d, t = .fn old r0 s0 ∧ fnConstraint x = some kids ∧
      body.update P cfg old kids args .nil 0 0 .nil = some (subs, r, s, w, d) ∧
      t' = .fn subs r s ∧ dd = some (.node d) := by
  cases t with
  | fn old r0 s0 =>
    unfold GF.update at h
    split at h
    · cases h
    · rename_i kids hk
      obtain ⟨⟨subs, r, s, w', d⟩, hb, e⟩ := Option.bind_eq_some_iff.mp h
      cases e
      exact ⟨_, _, _, _, _, _, _, _, rfl, hk, hb, rfl, rfl⟩
  | _ => cases h

theorem update_vmap_inv (h : (GF.vmap g axes n).update P cfg t x args = some (t', w, dd)) :
    ∃ old xs rs, t = .vec old ∧ old.toList.length = n ∧ laneConstraints n x = some xs ∧
      forLanes (fun i (p : Tr R × Option CM) => g.update P cfg p.1 p.2 (laneArgs axes args i)) 0
        (old.toList.zip xs) = some rs ∧
      t' = .vec (TrL.ofList (rs.map (·.1))) ∧ w = sumR (rs.map (·.2.1)) ∧
      dd = lanesDiscard (rs.map (·.2.2)) := by
  cases t with
  | vec old =>
    obtain ⟨u, hlen, h⟩ := Option.bind_eq_some_iff.mp h
    obtain ⟨xs, hxs, h⟩ := Option.bind_eq_some_iff.mp h
    obtain ⟨rs, hrs, e⟩ := Option.bind_eq_some_iff.mp h
    cases e
    exact ⟨_, _, _, rfl, lenIs_eq_some hlen, hxs, hrs, rfl, rfl, rfl⟩
  | _ => cases h

theorem update_scan_inv (h : (GF.scan g n).update P cfg t x args = some (t', w, dd)) :
    ∃ old c0 xs rs c, t = .scan old c0 ∧ old.toList.length = n ∧ laneConstraints n x = some xs ∧
      forSteps (updStep P cfg g args) (args.getD 0 .nil) 0 (old.toList.zip xs) = some (rs, c) ∧
      t' = .scan (TrL.ofList (rs.map (·.1))) c ∧ w = sumR (rs.map (·.2.1)) ∧
      dd = lanesDiscard (rs.map (·.2.2)) := by
  cases t with
  | scan old c0 =>
    obtain ⟨u, hlen, h⟩ := Option.bind_eq_some_iff.mp h
    obtain ⟨xs, hxs, h⟩ := Option.bind_eq_some_iff.mp h
    obtain ⟨⟨rs, c⟩, hrs, e⟩ := Option.bind_eq_some_iff.mp h
    cases e
    exact ⟨_, _, _, _, _, rfl, lenIs_eq_some hlen, hxs, hrs, rfl, rfl, rfl⟩
  | _ => cases h

theorem update_cond_inv (h : (GF.cond tg fg).update P cfg t x args = some (t', w, dd)) :
    ∃ cOld a b xq a' wa da b' wb db, t = .cond cOld a b ∧
      condConstraint cfg (.cond cOld a b) x = some xq ∧
      tg.update P cfg a xq (args.drop 1) = some (a', wa, da) ∧
      fg.update P cfg b xq (args.drop 1) = some (b', wb, db) ∧
      t' = .cond (args.getD 0 .nil).truthy a' b' ∧ w = condWeight cfg cOld a b args wa wb ∧
      updCondDiscard cfg cOld da db = some dd := by
  cases t with
  | cond cOld a b =>
    obtain ⟨xq, hxq, h⟩ := Option.bind_eq_some_iff.mp h
    obtain ⟨⟨a', wa, da⟩, ha, h⟩ := Option.bind_eq_some_iff.mp h
    obtain ⟨⟨b', wb, db⟩, hb, h⟩ := Option.bind_eq_some_iff.mp h
    obtain ⟨disc, hd, e⟩ := Option.bind_eq_some_iff.mp h
    cases e
    exact ⟨_, _, _, _, _, _, _, _, _, _, rfl, hxq, ha, hb, rfl, rfl, hd⟩
  | _ => cases h

theorem update_call_inv {old : TrL R} {x : CML}
    {s w : R} {d : CML} {res : TrL R × Val × R × R × CML}
    (h : (Body.call addr g es rest).update P cfg old x env subs s w d = some res) :
    subs.find? addr = none ∧ ∃ sub xsub t w' dsub, old.find? addr = some sub ∧
      (match x.find? addr with | some c => some c | none => sub.choices) = some xsub ∧
      g.update P cfg sub (some xsub) (es.map (·.eval env)) = some (t, w', dsub) ∧
      rest.update P cfg old x (env ++ [t.retval]) (subs.snoc addr t) (s + t.score) (w + w')
        (match dsub with | some c => d.snoc addr c | none => d) = some res := by
  unfold Body.update at h
  split at h
  · cases h
  · rename_i hn
    split at h
    · cases h
    · rename_i sub hsub
      obtain ⟨xsub, hx, h⟩ := Option.bind_eq_some_iff.mp h
      obtain ⟨⟨t, w', dsub⟩, ht, hrest⟩ := Option.bind_eq_some_iff.mp h
      exact ⟨by simpa using hn, sub, xsub, t, w', dsub, hsub, hx, ht, hrest⟩

/-! ### `regenerate` -/

/-- the discard of `Cond.regenerate` from those of the branches -/
def regenCondDiscard (cOld : Bool) : Option CM → Option CM → Option (Option CM)
  | none, x2 => some x2
  | x1, none => some x1
  | some x1, some x2 =>
      if cfg.condDiscardVisible then (CM.mergeCheck cOld x1 x2).map some
      else (CM.mergeNoCheck x1 x2).map some

def regenStep (g : GF) (s : Sel) (args : List Val) : Val → Nat → Tr R → Option (Upd R × Val) :=
  fun c i t => do
    let (t', w, d) ← g.regenerate P cfg t s [c, (args.getD 1 .nil).nth i]
    pure ((t', w, d), t'.retval.fst)

theorem regenStep_some {s : Sel}
    {b : Upd R} (h : regenStep P cfg g s args c i t = some (b, c')) :
    g.regenerate P cfg t s [c, (args.getD 1 .nil).nth i] = some b ∧ c' = b.1.retval.fst := by
  obtain ⟨b', hb, e⟩ := Option.bind_eq_some_iff.mp h
  cases e
  exact ⟨hb, rfl⟩

theorem regenerate_dist_inv {d : Nat} {s : Sel}
    (h : (GF.dist d).regenerate P cfg t s args = some (t', w, dd)) :
    ∃ vOld sOld, t = .leaf vOld sOld ∧
      (s.leaf = true ∧ t' = .leaf (P.draw d args) (-(P.lp d args (P.draw d args))) ∧ w = 0 ∧
          dd = some (.leaf vOld) ∨
        s.leaf = false ∧ t' = .leaf vOld (-(P.lp d args vOld)) ∧ w = P.lp d args vOld + sOld ∧
          dd = none) := by
  cases t with
  | leaf vOld sOld =>
    unfold GF.regenerate at h
    split at h
    · rename_i hl
      cases h
      exact ⟨_, _, rfl, .inl ⟨hl, rfl, rfl, rfl⟩⟩
    · rename_i hl
      cases h
      exact ⟨_, _, rfl, .inr ⟨by simpa using hl, rfl, rfl, rfl⟩⟩
  | _ => cases h

theorem regenerate_fn_inv {s : Sel} (h : (GF.fn body).regenerate P cfg t s args = some (t', w, dd)) :
    ∃ old r0 s0 subs r sc d, t = .fn old r0 s0 ∧
      body.regenerate P cfg old s args .nil 0 0 .nil = some (subs, r, sc, w, d) ∧
      t' = .fn subs r sc ∧ dd = some (.node d) := by
  cases t with
  | fn old r0 s0 =>
    obtain ⟨⟨subs, r, sc, w', d⟩, hb, e⟩ := Option.bind_eq_some_iff.mp h
    cases e
    exact ⟨_, _, _, _, _, _, _, rfl, hb, rfl, rfl⟩
  | _ => cases h

theorem regenerate_vmap_inv {s : Sel}
    (h : (GF.vmap g axes n).regenerate P cfg t s args = some (t', w, dd)) :
    ∃ old rs, t = .vec old ∧ old.toList.length = n ∧
      forLanes (fun i (t : Tr R) => g.regenerate P cfg t s (laneArgs axes args i)) 0 old.toList
        = some rs ∧
      t' = .vec (TrL.ofList (rs.map (·.1))) ∧ w = sumR (rs.map (·.2.1)) ∧
      dd = lanesDiscard (rs.map (·.2.2)) := by
  cases t with
  | vec old =>
    obtain ⟨u, hlen, h⟩ := Option.bind_eq_some_iff.mp h
    obtain ⟨rs, hrs, e⟩ := Option.bind_eq_some_iff.mp h
    cases e
    exact ⟨_, _, rfl, lenIs_eq_some hlen, hrs, rfl, rfl, rfl⟩
  | _ => cases h

theorem regenerate_scan_inv {s : Sel} (h : (GF.scan g n).regenerate P cfg t s args = some (t', w, dd)) :
    ∃ old c0 rs c, t = .scan old c0 ∧ cfg.scanRegenDefined = true ∧ old.toList.length = n ∧
      forSteps (regenStep P cfg g s args) (args.getD 0 .nil) 0 old.toList = some (rs, c) ∧
      t' = .scan (TrL.ofList (rs.map (·.1))) c ∧ w = sumR (rs.map (·.2.1)) ∧
      dd = lanesDiscard (rs.map (·.2.2)) := by
  obtain ⟨c1, defined, c3, c4, c5⟩ := cfg
  cases t with
  | scan old c0 =>
    cases defined with
    | false => cases h
    | true =>
      obtain ⟨u, hlen, h⟩ := Option.bind_eq_some_iff.mp h
      obtain ⟨⟨rs, c⟩, hrs, e⟩ := Option.bind_eq_some_iff.mp h
      cases e
      exact ⟨_, _, _, _, rfl, rfl, lenIs_eq_some hlen, hrs, rfl, rfl, rfl⟩
  | _ => cases h

theorem regenerate_cond_inv {s : Sel}
    (h : (GF.cond tg fg).regenerate P cfg t s args = some (t', w, dd)) :
    ∃ cOld a b a' wa da b' wb db, t = .cond cOld a b ∧
      tg.regenerate P cfg a s (args.drop 1) = some (a', wa, da) ∧
      fg.regenerate P cfg b s (args.drop 1) = some (b', wb, db) ∧
      t' = .cond (args.getD 0 .nil).truthy a' b' ∧ w = condWeight cfg cOld a b args wa wb ∧
      regenCondDiscard cfg cOld da db = some dd := by
  cases t with
  | cond cOld a b =>
    obtain ⟨⟨a', wa, da⟩, ha, h⟩ := Option.bind_eq_some_iff.mp h
    obtain ⟨⟨b', wb, db⟩, hb, h⟩ := Option.bind_eq_some_iff.mp h
    obtain ⟨disc, hd, e⟩ := Option.bind_eq_some_iff.mp h
    cases e
    exact ⟨_, _, _, _, _, _, _, _, _, rfl, ha, hb, rfl, rfl, hd⟩
  | _ => cases h

theorem regenerate_call_inv {old : TrL R} {s : Sel}
    {sc w : R} {d : CML} {res : TrL R × Val × R × R × CML}
    (h : (Body.call addr g es rest).regenerate P cfg old s env subs sc w d = some res) :
    subs.find? addr = none ∧ ∃ sub t w' dsub, old.find? addr = some sub ∧
      g.regenerate P cfg sub (s.matchAddr addr).2 (es.map (·.eval env)) = some (t, w', dsub) ∧
      rest.regenerate P cfg old s (env ++ [t.retval]) (subs.snoc addr t) (sc + t.score) (w + w')
        (match dsub with | some c => d.snoc addr c | none => d) = some res := by
  unfold Body.regenerate at h
  split at h
  · cases h
  · rename_i hn
    split at h
    · cases h
    · rename_i sub hsub
      obtain ⟨⟨t, wt, dsub⟩, ht, hrest⟩ := Option.bind_eq_some_iff.mp h
      exact ⟨by simpa using hn, sub, t, wt, dsub, hsub, ht, hrest⟩

theorem regenerate_vmap_run {s : Sel} {l : List (Tr R)} {rs : List (Upd R)}
    (h : forLanes (fun i (t : Tr R) => g.regenerate P cfg t s (laneArgs axes args i)) 0 l = some rs) :
    List.Forall₂ (fun t b => ∃ a, g.regenerate P cfg t s a = some b) l rs :=
  forLanes_forall₂ (fun _ _ _ hb => ⟨_, hb⟩) h

theorem regenerate_scan_run {s : Sel} {l : List (Tr R)} {rs : List (Upd R)}
    (h : forSteps (regenStep P cfg g s args) c 0 l = some (rs, c')) :
    List.Forall₂ (fun t b => ∃ a, g.regenerate P cfg t s a = some b) l rs :=
  forSteps_forall₂ (fun _ _ _ _ _ hb => ⟨_, (regenStep_some P cfg hb).1⟩) h

end Genjax

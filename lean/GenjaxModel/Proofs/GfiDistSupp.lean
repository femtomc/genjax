import GenjaxModel.Proofs.GfiLaw
/-!
  What can come out of `GF.simD`: total mass 1 (the outcome "raised" included); the point mass at
  `GF.simulate` under the point-mass primitives of the probe sampler; never raising without address
  collisions (`GF.noCollide`); every trace in the support is coherent (`GF.Coh`) and of the shape the
  operations build (`GF.Canon`), hence has the program's choice-map skeleton.
-/
namespace Genjax
open Smc Smc.FinDist

mutual
  /-- no Fn body of the program traces two calls at the same address -/
  def GF.noCollide : GF → Bool
    | .dist _ => true
    | .fn body => decide body.addrs.Nodup && body.noCollide
    | .vmap g _ _ => g.noCollide
    | .scan g _ => g.noCollide
    | .cond t f => t.noCollide && f.noCollide
  def Body.noCollide : Body → Bool
    | .ret _ => true
    | .call _ g _ rest => g.noCollide && rest.noCollide
end

/-! ## total mass -/

section Mass
variable {K : Type} [Field K] {R : Type} [Zero R] [Add R] [Neg R] (pd : PD K) (P : Prims R)

theorem simD_mass_aux (hn : pd.Normalised) :
    (∀ (g : GF) (args : List Val), mass (g.simD pd P args) = 1) ∧
    ∀ (b : Body) (env : List Val) (subs : TrL R) (s : R), mass (b.simD pd P env subs s) = 1 := by
  refine GF.rec_both ?_ ?_ ?_ ?_ ?_ ?_ ?_
  · intro d args
    dsimp only [GF.simD, mass, E]
    rw [List.map_map]
    exact (congrArg sumK (List.map_congr_left fun v _ => mul_one _)).trans (hn d args)
  · intro body ih args
    exact mass_bindO_pureO _ (ih _ _ _)
  · intro g axes n ih args
    exact mass_bindO_pureO _ (forLanesD_mass _ (fun _ _ => ih _) _ _)
  · intro g n ih args
    exact mass_bindO_pureO _ (forStepsD_mass _ (fun _ _ _ => mass_bindO_pureO _ (ih _)) _ _ _)
  · intro t f iht ihf args
    exact mass_bindO _ _ (iht _) fun _ => mass_bindO_pureO _ (ihf _)
  · intro e env subs s
    exact mass_pureO _
  · intro addr g es rest ihg ihr env subs s
    dsimp only [Body.simD]
    split
    · exact mass_failO
    · exact mass_bindO _ _ (ihg _) fun _ => ihr _ _ _

theorem simD_mass_gf (hn : pd.Normalised) : (g : GF) → ∀ (args : List Val),
      mass (g.simD pd P args) = 1 :=
  (simD_mass_aux pd P hn).1

theorem simD_mass_body (hn : pd.Normalised) : (b : Body) → ∀ (env : List Val) (subs : TrL R)
      (s : R), mass (b.simD pd P env subs s) = 1 :=
  (simD_mass_aux pd P hn).2

theorem simD_mass (hn : pd.Normalised) (g : GF) (args : List Val) : mass (g.simD pd P args) = 1 :=
  simD_mass_gf pd P hn g args

end Mass

/-! ## point-mass primitives: `simD` is `simulate` -/

section PointMass
variable {K : Type} [Field K] {R : Type} [Zero R] [Add R] [Neg R] (P : Prims R)

omit [Zero R] [Add R] [Neg R] in
theorem PD.ofDraw_normalised : (PD.ofDraw P : PD K).Normalised := fun _ _ => add_zero 1

theorem simD_pointmass_body : (b : Body) → ∀ (env : List Val) (subs : TrL R) (s : R),
      b.simD (PD.ofDraw P : PD K) P env subs s = FinDist.pure (b.simulate P env subs s) :=
  fun b env subs s => ((simD_point_both _ P fun _ _ => rfl).2 b env subs s).eq_pure
    (simD_mass_body _ P (PD.ofDraw_normalised P) b env subs s)

/-- Tie to the executable model: a single outcome (`simD_point_both`), which carries the whole mass -/
theorem simD_pointmass (g : GF) (args : List Val) :
    g.simD (PD.ofDraw P : PD K) P args = FinDist.pure (g.simulate P args) :=
  ((simD_point_both _ P fun _ _ => rfl).1 g args).eq_pure
    (simD_mass _ P (PD.ofDraw_normalised P) g args)

end PointMass

/-! ## never raising -/

section NoFail
variable {K : Type} [Field K] {R : Type} [Zero R] [Add R] [Neg R] (pd : PD K) (P : Prims R)

theorem simD_nofail_aux :
    (∀ g : GF, g.noCollide = true → ∀ (args : List Val), none ∉ supp (g.simD pd P args)) ∧
    ∀ b : Body, b.noCollide = true → b.addrs.Nodup → ∀ (env : List Val) (subs : TrL R) (s : R),
      (∀ a ∈ b.addrs, subs.find? a = none) → none ∉ supp (b.simD pd P env subs s) := by
  refine GF.rec_both ?_ ?_ ?_ ?_ ?_ ?_ ?_
  · intro d _ args h
    obtain ⟨p, hp, e⟩ := List.mem_map.mp h
    obtain ⟨v, -, rfl⟩ := List.mem_map.mp hp
    cases e
  · intro body ih hg args
    have hg := Bool.and_eq_true_iff.mp hg
    exact none_not_mem_supp_bindO_pureO _
      (ih hg.2 (of_decide_eq_true hg.1) _ _ _ fun _ _ => rfl)
  · intro g axes n ih hg args
    exact none_not_mem_supp_bindO_pureO _ (forLanesD_nofail _ (fun _ _ => ih hg _) _ _)
  · intro g n ih hg args
    exact none_not_mem_supp_bindO_pureO _ (forStepsD_nofail _
      (fun _ _ _ => none_not_mem_supp_bindO_pureO _ (ih hg _)) _ _ _)
  · intro t f iht ihf hg args
    have hg := Bool.and_eq_true_iff.mp hg
    exact none_not_mem_supp_bindO (iht hg.1 _) fun _ =>
      none_not_mem_supp_bindO_pureO _ (ihf hg.2 _)
  · intro e _ _ env subs s _
    exact none_not_mem_supp_pureO _
  · intro addr g es rest ihg ihr hb hnd env subs s hfresh
    have hb := Bool.and_eq_true_iff.mp hb
    have hnd := List.nodup_cons.mp hnd
    dsimp only [Body.simD]
    rw [hfresh addr List.mem_cons_self]
    refine none_not_mem_supp_bindO (ihg hb.1 _) fun t => ihr hb.2 hnd.2 _ _ _ fun a ha => ?_
    exact TrL.find?_snoc_none (hfresh a (List.mem_cons_of_mem _ ha)) fun e => hnd.1 (e ▸ ha)

theorem simD_nofail_gf : (g : GF) → g.noCollide = true → ∀ (args : List Val),
      none ∉ supp (g.simD pd P args) :=
  (simD_nofail_aux pd P).1

theorem simD_nofail_body : (b : Body) → b.noCollide = true → b.addrs.Nodup →
      ∀ (env : List Val) (subs : TrL R) (s : R), (∀ a ∈ b.addrs, subs.find? a = none) →
      none ∉ supp (b.simD pd P env subs s) :=
  (simD_nofail_aux pd P).2

theorem simD_nofail (g : GF) (hg : g.noCollide = true) (args : List Val) :
    none ∉ supp (g.simD pd P args) := simD_nofail_gf pd P g hg args

end NoFail

/-! ## the support: coherent, canonical traces -/

section Coh
variable {K : Type} [Field K] {R : Type} [AddCommGroup R] (pd : PD K) (P : Prims R)

theorem simD_coh_canon_aux :
    (∀ (g : GF) (args : List Val) (t : Tr R), some t ∈ supp (g.simD pd P args) →
      g.Coh P args t ∧ g.Canon t) ∧
    ∀ (b : Body) (env : List Val) (subs : TrL R) (s : R) (r : TrL R × Val × R),
      some r ∈ supp (b.simD pd P env subs s) →
      BodyInv P b env subs s r.1 r.2.1 r.2.2 ∧ BodyCanonInv b subs r.1 := by
  refine GF.rec_both ?_ ?_ ?_ ?_ ?_ ?_ ?_
  · intro d args t h
    obtain ⟨p, hp, e⟩ := List.mem_map.mp h
    obtain ⟨v, -, rfl⟩ := List.mem_map.mp hp
    cases e
    exact ⟨rfl, trivial⟩
  · intro body ih args t h
    obtain ⟨r, hr, rfl⟩ := mem_supp_bindO_pureO h
    exact ⟨BodyInv.final P (ih _ _ _ _ hr).1, (ih _ _ _ _ hr).2.final⟩
  · intro g axes n ih args t h
    obtain ⟨ts, hts, rfl⟩ := mem_supp_bindO_pureO h
    have h1 := forLanesD_lanesCoh _ id (fun a t => g.Coh P a t) axes args
      (fun _ _ _ hb => (ih _ _ hb).1) _ _ _ hts
    rw [List.map_id, List.length_replicate, ← TrL.toList_ofList ts] at h1
    exact ⟨h1, lanesCanon_ofList _ _
      (forLanesD_forall_fd _ _ (fun _ _ _ hb => (ih _ _ hb).2) _ _ _ hts)⟩
  · intro g n ih args t h
    obtain ⟨r, hr, rfl⟩ := mem_supp_bindO_pureO h
    have hstep : ∀ c j (u : Unit) (p : Tr R × Val), some p ∈ supp (bindO
        (g.simD pd P [c, (args.getD 1 .nil).nth j]) fun t => pureO (t, t.retval.fst)) →
        (g.Coh P [c, (args.getD 1 .nil).nth j] p.1 ∧ p.2 = p.1.retval.fst) ∧ g.Canon p.1 := by
      intro c j _ p hp
      obtain ⟨t, ht, rfl⟩ := mem_supp_bindO_pureO hp
      exact ⟨⟨(ih _ _ ht).1, rfl⟩, (ih _ _ ht).2⟩
    have h1 := forStepsD_stepsCoh _ id (fun a t => g.Coh P a t) (args.getD 1 .nil)
      (fun c j u p hp => (hstep c j u p hp).1) _ _ _ _ hr
    rw [List.map_id, List.length_replicate, ← TrL.toList_ofList r.1] at h1
    exact ⟨h1, lanesCanon_ofList _ _
      (forStepsD_forall_fd _ _ (fun c j u p hp => (hstep c j u p hp).2) _ _ _ _ hr)⟩
  · intro t f iht ihf args tr h
    obtain ⟨a, ha, h⟩ := mem_supp_bindO h
    obtain ⟨b, hb, rfl⟩ := mem_supp_bindO_pureO h
    exact ⟨⟨rfl, (iht _ _ ha).1, (ihf _ _ hb).1⟩, (iht _ _ ha).2, (ihf _ _ hb).2⟩
  · intro e env subs s r h
    cases mem_supp_pureO h
    exact ⟨BodyInv.ret P e env subs s, BodyCanonInv.ret e subs⟩
  · intro addr g es rest ihg ihr env subs s r h
    dsimp only [Body.simD] at h
    split at h
    · cases mem_supp_failO h
    · next hn =>
      obtain ⟨t, ht, hrest⟩ := mem_supp_bindO h
      exact ⟨BodyInv.call P (Bool.eq_false_iff.mpr hn) (ihg _ _ ht).1 (ihr _ _ _ _ hrest).1,
        BodyCanonInv.call (ihg _ _ ht).2 (ihr _ _ _ _ hrest).2⟩

theorem simD_coh_gf : (g : GF) → ∀ (args : List Val) (t : Tr R),
      some t ∈ supp (g.simD pd P args) → g.Coh P args t :=
  fun g args t h => ((simD_coh_canon_aux pd P).1 g args t h).1

theorem simD_inv_body : (b : Body) → ∀ (env : List Val) (subs : TrL R) (s : R)
      (r : TrL R × Val × R), some r ∈ supp (b.simD pd P env subs s) →
      BodyInv P b env subs s r.1 r.2.1 r.2.2 :=
  fun b env subs s r h => ((simD_coh_canon_aux pd P).2 b env subs s r h).1

/-- the distributional version of `C01_simulate_coherent` -/
theorem simD_coh (g : GF) (args : List Val) (t : Tr R) (h : some t ∈ supp (g.simD pd P args)) :
    g.Coh P args t := simD_coh_gf pd P g args t h

theorem simD_canon_gf : (g : GF) → ∀ (args : List Val) (t : Tr R),
      some t ∈ supp (g.simD pd P args) → g.Canon t :=
  fun g args t h => ((simD_coh_canon_aux pd P).1 g args t h).2

theorem simD_canon_body : (b : Body) → ∀ (env : List Val) (subs : TrL R) (s : R)
      (r : TrL R × Val × R), some r ∈ supp (b.simD pd P env subs s) → BodyCanonInv b subs r.1 :=
  fun b env subs s r h => ((simD_coh_canon_aux pd P).2 b env subs s r h).2

/-- in particular the choice map exists iff the skeleton exists -/
theorem simD_choices_skel (g : GF) (args : List Val) (t : Tr R)
    (h : some t ∈ supp (g.simD pd P args)) : t.choices.map CM.skel = g.skel :=
  canon_choices_skel P g args t (simD_canon_gf pd P g args t h) (simD_coh_gf pd P g args t h)

end Coh

end Genjax

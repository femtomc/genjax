import GenjaxModel.Model.AdevDet2
import Mathlib.Algebra.Order.Field.Basic
import Mathlib.Tactic.Ring
/-!
  C15 for the richer deterministic language of `Model/AdevDet2.lean`: the ADEV interpreter (CPS,
  symbolic zeros, float0 canonicalisation, fast path, multi-output equations, call / fori as single
  equations, cond in CPS) is ordinary forward-mode AD - for every program over LAWFUL primitives
  (`Prim.Lawful`: what is assumed of JAX's per-primitive JVP rules), every environment and every
  `Cfg` with the correct fast-path condition.
-/
set_option linter.unusedSectionVars false
namespace Genjax.Adev2

/-! ### lists, `gather`, `iter` -/
section Lists
variable {α β : Type}

theorem getD_map [Inhabited α] [Inhabited β] (f : α → β) (hf : f default = default) (env : List α) (i : Nat) :
    f (env.getD i default) = (env.map f).getD i default := by
  rw [List.getD_eq_getElem?_getD, List.getD_eq_getElem?_getD, List.getElem?_map]
  cases env[i]? with
  | none => exact hf
  | some y => rfl

theorem gather_map [Inhabited α] [Inhabited β] (f : α → β) (hf : f default = default) (env : List α) (ins : List Nat) :
    (gather env ins).map f = gather (env.map f) ins :=
  List.map_map.trans (List.map_congr_left fun i _ => getD_map f hf env i)

theorem getD_all [Inhabited α] (Q : α → Prop) (hd : Q default) (env : List α) (h : ∀ x ∈ env, Q x) (i : Nat) :
    Q (env.getD i default) := by
  rw [List.getD_eq_getElem?_getD]
  cases hi : env[i]? with
  | none => exact hd
  | some y => exact h y (List.mem_of_getElem? hi)

theorem gather_all [Inhabited α] (Q : α → Prop) (hd : Q default) (env : List α) (h : ∀ x ∈ env, Q x) (ins : List Nat) :
    ∀ x ∈ gather env ins, Q x :=
  List.forall_mem_map.mpr fun i _ => getD_all Q hd env h i

theorem gather_append [Inhabited α] (env : List α) (a b : List Nat) :
    gather env (a ++ b) = gather env a ++ gather env b := by
  simp [gather]

theorem gather_length [Inhabited α] (env : List α) (a : List Nat) : (gather env a).length = a.length := by
  simp [gather]

theorem forall_mem_zipWith {γ : Type} {f : α → β → γ} {Q : γ → Prop} {l : List α} {l' : List β}
    (h : ∀ x ∈ List.zip l l', Q (f x.1 x.2)) : ∀ o ∈ List.zipWith f l l', Q o := by
  intro o ho
  rw [← List.map_uncurry_zip_eq_zipWith, List.mem_map] at ho
  obtain ⟨x, hx, rfl⟩ := ho
  exact h x hx

theorem map_zipWith_left {γ : Type} (f : α → β → γ) (g : γ → α) (hg : ∀ a b, g (f a b) = a) :
    ∀ (l : List α) (l' : List β), l'.length = l.length → (List.zipWith f l l').map g = l
  | [], _, _ => rfl
  | _ :: _, [], h => nomatch h
  | a :: l, b :: l', h => congrArg₂ (· :: ·) (hg a b) (map_zipWith_left f g hg l l' (Nat.succ.inj h))

theorem iter_rel {γ δ : Type} (R : γ → δ → Prop) (f : γ → γ) (g : δ → δ)
    (h : ∀ a b, R a b → R (f a) (g b)) : ∀ (n : Nat) (a : γ) (b : δ), R a b → R (iter n f a) (iter n g b)
  | 0, _, _, hab => hab
  | n + 1, a, b, hab => iter_rel R f g h n (f a) (g b) (h a b hab)

theorem iter_inv {γ : Type} (Q : γ → Prop) (f : γ → γ) (h : ∀ a, Q a → Q (f a)) :
    ∀ (n : Nat) (a : γ), Q a → Q (iter n f a)
  | 0, _, ha => ha
  | n + 1, a, ha => iter_inv Q f h n (f a) (h a ha)

theorem loop_all [Inhabited α] (Q : α → Prop) (hd : Q default) (body : List α → List α)
    (hbody : ∀ env, (∀ x ∈ env, Q x) → ∀ x ∈ body env, Q x) (outs : List Nat) (n : Nat) (cs c : List α)
    (hcs : ∀ x ∈ cs, Q x) (hc : ∀ x ∈ c, Q x) :
    ∀ x ∈ iter n (fun c => gather (body (cs ++ c)) outs) c, Q x :=
  iter_inv (fun c => ∀ x ∈ c, Q x) _
    (fun _ ha => gather_all Q hd _ (hbody _ (List.forall_mem_append.mpr ⟨hcs, ha⟩)) outs) n c hc

theorem loop_map [Inhabited α] [Inhabited β] (f : α → β) (hf : f default = default)
    (body : List α → List α) (body' : List β → List β)
    (hbody : ∀ env, (body env).map f = body' (env.map f)) (outs : List Nat) (n : Nat) (cs c : List α) :
    (iter n (fun c => gather (body (cs ++ c)) outs) c).map f
      = iter n (fun c => gather (body' (cs.map f ++ c)) outs) (c.map f) :=
  iter_rel (fun a b => a.map f = b) _ _
    (fun _ _ hab => (gather_map f hf _ outs).trans (congrArg (gather · outs)
      ((hbody _).trans (congrArg body' ((List.map_append ..).trans (congrArg (_ ++ ·) hab))))))
    n c _ rfl

theorem iter_eq_iterate {γ : Type} (f : γ → γ) : ∀ (n : Nat) (a : γ), iter n f a = f^[n] a
  | 0, _ => rfl
  | n + 1, a => by rw [iter, Function.iterate_succ_apply, iter_eq_iterate f n]

theorem iter_add {γ : Type} (f : γ → γ) (m n : Nat) (a : γ) : iter (m + n) f a = iter n f (iter m f a) := by
  rw [iter_eq_iterate, iter_eq_iterate, iter_eq_iterate, Nat.add_comm, Function.iterate_add_apply]

end Lists

section Field
variable {K : Type} [Field K] [LinearOrder K]

/-! ### tangents -/
@[simp] theorem Tan.mat_zero : (Tan.zero : Tan K).mat = 0 := rfl
@[simp] theorem Tan.mat_tan (d : K) : (Tan.tan d).mat = d := rfl
@[simp] theorem Tan.mat_add (a b : Tan K) : (Tan.add a b).mat = a.mat + b.mat := by
  cases a <;> cases b <;> simp [Tan.add]
@[simp] theorem Tan.mat_scale (c : K) (a : Tan K) : (Tan.scale c a).mat = c * a.mat := by
  cases a <;> simp [Tan.scale]
@[simp] theorem Tan.mat_neg (a : Tan K) : (Tan.neg a).mat = -a.mat := by
  cases a <;> simp [Tan.neg]
theorem Tan.mat_select (c : Bool) (a b : Tan K) : (Tan.select c a b).mat = if c then a.mat else b.mat := by
  cases a <;> cases b <;> simp [Tan.select]
@[simp] theorem inst_mat (v : Val K) (t : Tan K) : (inst v t).mat = t.mat := by
  cases t <;> cases v <;> simp [inst]
theorem inst_dis_zero (n : Int) : inst (Val.dis n : Val K) .zero = .zero := rfl
theorem inst_zero_of_isDis {v : Val K} (h : v.isDis = true) : inst v .zero = .zero := by
  cases v with
  | flt _ => exact absurd h Bool.false_ne_true
  | dis n => rfl

@[simp] theorem toRD_default : (default : DV K).toRD = default := rfl
@[simp] theorem zeroLike_toRD (v : Val K) : (zeroLike v).toRD = ⟨v, 0⟩ := by
  simp [zeroLike, DV.toRD]

theorem getD_tan_mat (ts : List (Tan K)) (i : Nat) :
    ((ts.map fun t => Tan.tan t.mat).getD i .zero).mat = (ts.getD i .zero).mat := by
  simp only [List.getD_eq_getElem?_getD, List.getElem?_map]
  cases ts[i]? <;> simp

theorem getD_mat_zero (ts : List (Tan K)) (h : ∀ t ∈ ts, Tan.mat t = 0) (i : Nat) : (ts.getD i .zero).mat = 0 := by
  simp only [List.getD_eq_getElem?_getD]
  cases hi : ts[i]? with
  | none => rfl
  | some y => simpa using h y (List.mem_of_getElem? hi)


/-! ### lawful primitives: what is assumed of a JVP rule of JAX -/

/-- What the interpreter relies on in a primitive's JVP rule (true of JAX's rules; proved for the
    standard table in `Op.prim_lawful`, for `call` and `fori` in `callPrim_lawful`, `loopPrim_lawful`):
    * `primal`: the rule's primal outputs are the primitive's value;
    * `len`: one tangent per output;
    * `zeroOk`: a symbolic zero stands for 0 - replacing every symbolic zero among the input tangents
      by a materialised 0 does not change the numbers the rule returns;
    * `zeroLin`: the rule is linear at 0 - zero input tangents give zero output tangents;
    * `disZero`: a discrete output gets the symbolic zero (float0). -/
structure Prim.Lawful (p : Prim K) : Prop where
  primal : ∀ vs ts, ts.length = vs.length → (p.jvp vs ts).1 = p.val vs
  len : ∀ vs ts, ts.length = vs.length → (p.jvp vs ts).2.length = (p.val vs).length
  zeroOk : ∀ vs ts, ts.length = vs.length →
    (p.jvp vs ts).2.map Tan.mat = (p.jvp vs (ts.map fun t => Tan.tan t.mat)).2.map Tan.mat
  zeroLin : ∀ vs ts, ts.length = vs.length → (∀ t ∈ ts, Tan.mat t = 0) → ∀ t ∈ (p.jvp vs ts).2, Tan.mat t = 0
  disZero : ∀ vs ts, ts.length = vs.length →
    ∀ x ∈ List.zip (p.val vs) (p.jvp vs ts).2, x.1.isDis = true → x.2 = Tan.zero

/-- `disZero` read on the rule's own primal outputs -/
theorem Prim.Lawful.disZero' {p : Prim K} (hp : p.Lawful) (vs : List (Val K)) (ts : List (Tan K))
    (h : ts.length = vs.length) :
    ∀ x ∈ List.zip (p.jvp vs ts).1 (p.jvp vs ts).2, x.1.isDis = true → x.2 = Tan.zero := by
  rw [hp.primal vs ts h]
  exact hp.disZero vs ts h

def pack (vs : List (Val K)) (ds : List K) : List (RD K) := List.zipWith RD.mk vs ds

theorem stepJ_eq_pack (p : Prim K) (args : List (RD K)) :
    stepJ p args = pack (p.jvp (args.map (·.p)) (args.map fun a => Tan.tan a.d)).1
      ((p.jvp (args.map (·.p)) (args.map fun a => Tan.tan a.d)).2.map Tan.mat) := by
  simp only [stepJ, pack, List.zipWith_map_right]

theorem pack_zero (vs : List (Val K)) (ds : List K) (hl : ds.length = vs.length) (h : ∀ d ∈ ds, d = 0) :
    pack vs ds = vs.map fun v => ⟨v, 0⟩ := by
  induction vs generalizing ds with
  | nil => simp [pack]
  | cons v vs ih =>
    cases ds with
    | nil => simp at hl
    | cons d ds =>
      simp only [pack, List.zipWith_cons_cons, List.map_cons, List.cons.injEq, RD.mk.injEq, true_and]
      exact ⟨h d (by simp), ih ds (by simpa using hl) (fun x hx => h x (by simp [hx]))⟩

theorem pack_map_p (vs : List (Val K)) (ds : List K) (hl : ds.length = vs.length) :
    (pack vs ds).map (·.p) = vs :=
  map_zipWith_left RD.mk RD.p (fun _ _ => rfl) vs ds hl

theorem primalOnly_good (cfg : Cfg) (h : cfg.Good) (ts : List (Tan K)) (outs : List (Val K))
    (hp : primalOnly cfg ts outs = true) : ∀ t ∈ ts, t = Tan.zero := by
  obtain ⟨h1, h2⟩ := h
  unfold primalOnly at hp
  rw [h2, Bool.false_and, Bool.or_false] at hp
  cases hz : cfg.zeroTest <;> rw [hz] at hp
  · intro t ht
    have := List.all_eq_true.mp hp t ht
    cases t with
    | zero => rfl
    | tan _ => exact absurd this Bool.false_ne_true
  · exact absurd hz h1
  · exact absurd hp Bool.false_ne_true

/-- one equation: the interpreter's default branch (float0 canonicalisation, nullary case, all-zero
    fast path, rule dispatch with symbolic zeros, instantiation) against the reference forward mode -/
theorem stepA_toRD (cfg : Cfg) (hc : cfg.Good) (p : Prim K) (hp : p.Lawful) (args : List (DV K)) :
    (stepA cfg p args).map DV.toRD = stepJ p (args.map DV.toRD) := by
  have hl : (args.map (·.t)).length = (args.map (·.p)).length := by simp only [List.length_map]
  have hl' : ((args.map (·.t)).map fun t => Tan.tan t.mat).length = (args.map (·.p)).length := by
    simp only [List.length_map]
  -- the reference step, in terms of the interpreter's values and its tangents materialised
  have hJ : stepJ p (args.map DV.toRD) = pack (p.val (args.map (·.p)))
      ((p.jvp (args.map (·.p)) ((args.map (·.t)).map fun t => Tan.tan t.mat)).2.map Tan.mat) := by
    rw [stepJ_eq_pack, ← hp.primal _ _ hl']
    simp only [List.map_map, Function.comp_def, DV.toRD]
  -- the primal-only outcome, whenever all input tangents are symbolic zeros
  have hfast : (∀ t ∈ args.map (·.t), t = Tan.zero) →
      ((p.val (args.map (·.p))).map zeroLike).map DV.toRD = stepJ p (args.map DV.toRD) := by
    intro hz
    rw [hJ, pack_zero _ _ ((List.length_map _).trans (hp.len _ _ hl'))]
    · simp only [List.map_map, Function.comp_def, zeroLike_toRD]
    · exact List.forall_mem_map.mpr (hp.zeroLin _ _ hl'
        (List.forall_mem_map.mpr fun t ht => congrArg Tan.mat (hz t ht)))
  unfold stepA
  dsimp only
  split_ifs with he hpo
  · exact hfast (by rw [List.isEmpty_iff.mp he]; exact fun _ h => nomatch h)
  · exact hfast (primalOnly_good cfg hc _ _ hpo)
  · rw [hJ, List.map_zipWith, hp.primal _ _ hl, ← hp.zeroOk _ _ hl]
    simp only [pack, List.zipWith_map_right, DV.toRD, inst_mat]

theorem stepA_wf (cfg : Cfg) (p : Prim K) (hp : p.Lawful) (args : List (DV K)) :
    ∀ o ∈ stepA cfg p args, o.p.isDis = true → o.t = Tan.zero := by
  have hfast : ∀ o ∈ (p.val (args.map (·.p))).map zeroLike, o.p.isDis = true → o.t = Tan.zero :=
    List.forall_mem_map.mpr fun _ _ hd => inst_zero_of_isDis hd
  unfold stepA
  dsimp only
  split_ifs
  · exact hfast
  · exact hfast
  · refine forall_mem_zipWith fun x hx hd => ?_
    rw [hp.disZero' _ _ (by simp only [List.length_map]) x hx hd]
    exact inst_zero_of_isDis hd

theorem stepJ_wf (p : Prim K) (hp : p.Lawful) (args : List (RD K)) :
    ∀ o ∈ stepJ p args, o.p.isDis = true → o.d = 0 :=
  forall_mem_zipWith fun x hx hd =>
    congrArg Tan.mat (hp.disZero' _ _ (by simp only [List.length_map]) x hx hd)

theorem stepJ_zero (p : Prim K) (hp : p.Lawful) (args : List (RD K)) (h : ∀ a ∈ args, a.d = 0) :
    ∀ o ∈ stepJ p args, o.d = 0 :=
  forall_mem_zipWith fun x hx =>
    hp.zeroLin _ _ (by simp only [List.length_map]) (List.forall_mem_map.mpr h) x.2
      (List.of_mem_zip (a := x.1) (b := x.2) hx).2

theorem stepJ_primal (p : Prim K) (hp : p.Lawful) (args : List (RD K)) :
    (stepJ p args).map (·.p) = p.val (args.map (·.p)) := by
  have hl : (args.map fun a => Tan.tan a.d).length = (args.map (·.p)).length := by simp
  rw [stepJ_eq_pack, pack_map_p, hp.primal _ _ hl]
  simp [hp.len _ _ hl, hp.primal _ _ hl]


/-! ### the reference forward mode: invariants and primal projection -/
variable {P : Type}

theorem evalJEqn_cond (sem : P → Prim K) (c : Nat) (ins : List Nat) (thn : Prog P) (thnOut : Nat)
    (els : Prog P) (elsOut : Nat) (env : List (RD K)) :
    evalJEqn sem (.cond c ins thn thnOut els elsOut) env =
      if truthy (env.getD c default).p then [(evalJProg sem thn (gather env ins)).getD thnOut default]
      else [(evalJProg sem els (gather env ins)).getD elsOut default] := rfl

theorem evalPEqn_cond (sem : P → Prim K) (c : Nat) (ins : List Nat) (thn : Prog P) (thnOut : Nat)
    (els : Prog P) (elsOut : Nat) (env : List (Val K)) :
    evalPEqn sem (.cond c ins thn thnOut els elsOut) env =
      if truthy (env.getD c default) then [(evalPProg sem thn (gather env ins)).getD thnOut default]
      else [(evalPProg sem els (gather env ins)).getD elsOut default] := rfl

mutual
theorem evalJProg_inv (sem : P → Prim K) (Q : RD K → Prop) (hd : Q default)
    (hstep : ∀ p args, (∀ a ∈ args, Q a) → ∀ o ∈ stepJ (sem p) args, Q o) :
    ∀ (p : Prog P) (env : List (RD K)), (∀ x ∈ env, Q x) → ∀ x ∈ evalJProg sem p env, Q x
  | .nil, _, h => h
  | .cons e rest, env, h =>
      evalJProg_inv sem Q hd hstep rest _
        (List.forall_mem_append.mpr ⟨h, evalJEqn_inv sem Q hd hstep e env h⟩)
theorem evalJEqn_inv (sem : P → Prim K) (Q : RD K → Prop) (hd : Q default)
    (hstep : ∀ p args, (∀ a ∈ args, Q a) → ∀ o ∈ stepJ (sem p) args, Q o) :
    ∀ (e : Eqn P) (env : List (RD K)), (∀ x ∈ env, Q x) → ∀ x ∈ evalJEqn sem e env, Q x
  | .prim p ins, env, h => hstep p _ (gather_all Q hd env h ins)
  | .call ins body outs, env, h =>
      gather_all Q hd _ (evalJProg_inv sem Q hd hstep body _ (gather_all Q hd env h ins)) outs
  | .fori n consts ins body outs, env, h =>
      loop_all Q hd _ (evalJProg_inv sem Q hd hstep body) outs n _ _
        (gather_all Q hd env h consts) (gather_all Q hd env h ins)
  | .cond c ins thn thnOut els elsOut, env, h => by
      rw [evalJEqn_cond]
      split <;> exact List.forall_mem_singleton.mpr
        (getD_all Q hd _ (evalJProg_inv sem Q hd hstep _ _ (gather_all Q hd env h ins)) _)
end

def WFJ (env : List (RD K)) : Prop := ∀ x ∈ env, x.p.isDis = true → x.d = 0
def WFA (env : List (DV K)) : Prop := ∀ x ∈ env, x.p.isDis = true → x.t = Tan.zero

theorem WFA.toRD {env : List (DV K)} (h : WFA env) : WFJ (env.map DV.toRD) :=
  List.forall_mem_map.mpr fun a ha hd => congrArg Tan.mat (h a ha hd)

theorem WFJ.gather {env : List (RD K)} (h : WFJ env) (ins : List Nat) : WFJ (gather env ins) :=
  gather_all _ (fun _ => rfl) env h ins

theorem WFJ.getD {env : List (RD K)} (h : WFJ env) (i : Nat) :
    (env.getD i default).p.isDis = true → (env.getD i default).d = 0 :=
  getD_all _ (fun _ => rfl) env h i

theorem WFA.gather {env : List (DV K)} (h : WFA env) (ins : List Nat) : WFA (gather env ins) :=
  gather_all _ (fun _ => rfl) env h ins

theorem WFA.getD {env : List (DV K)} (h : WFA env) (i : Nat) :
    (env.getD i default).p.isDis = true → (env.getD i default).t = Tan.zero :=
  getD_all _ (fun _ => rfl) env h i

theorem evalJProg_wf (sem : P → Prim K) (hl : ∀ p, (sem p).Lawful) (p : Prog P) (env : List (RD K))
    (h : WFJ env) : WFJ (evalJProg sem p env) :=
  evalJProg_inv sem (fun x => x.p.isDis = true → x.d = 0) (fun _ => rfl)
    (fun q args _ => stepJ_wf (sem q) (hl q) args) p env h

theorem evalJEqn_wf (sem : P → Prim K) (hl : ∀ p, (sem p).Lawful) (e : Eqn P) (env : List (RD K))
    (h : WFJ env) : WFJ (evalJEqn sem e env) :=
  evalJEqn_inv sem (fun x => x.p.isDis = true → x.d = 0) (fun _ => rfl)
    (fun q args _ => stepJ_wf (sem q) (hl q) args) e env h

theorem evalJProg_zero (sem : P → Prim K) (hl : ∀ p, (sem p).Lawful) (p : Prog P) (env : List (RD K))
    (h : ∀ x ∈ env, x.d = 0) : ∀ x ∈ evalJProg sem p env, x.d = 0 :=
  evalJProg_inv sem (fun x => x.d = 0) rfl (fun q args ha => stepJ_zero (sem q) (hl q) args ha) p env h

mutual
theorem evalJProg_primal (sem : P → Prim K) (hl : ∀ p, (sem p).Lawful) :
    ∀ (p : Prog P) (env : List (RD K)), (evalJProg sem p env).map (·.p) = evalPProg sem p (env.map (·.p))
  | .nil, _ => rfl
  | .cons e rest, env =>
      (evalJProg_primal sem hl rest _).trans (congrArg (evalPProg sem rest)
        ((List.map_append ..).trans (congrArg (_ ++ ·) (evalJEqn_primal sem hl e env))))
theorem evalJEqn_primal (sem : P → Prim K) (hl : ∀ p, (sem p).Lawful) :
    ∀ (e : Eqn P) (env : List (RD K)), (evalJEqn sem e env).map (·.p) = evalPEqn sem e (env.map (·.p))
  | .prim p ins, env =>
      (stepJ_primal _ (hl p) _).trans (congrArg (sem p).val (gather_map (RD.p (K := K)) rfl env ins))
  | .call ins body outs, env =>
      (gather_map (RD.p (K := K)) rfl _ outs).trans (congrArg (gather · outs)
        ((evalJProg_primal sem hl body _).trans
          (congrArg (evalPProg sem body) (gather_map (RD.p (K := K)) rfl env ins))))
  | .fori n consts ins body outs, env =>
      (loop_map RD.p rfl _ _ (evalJProg_primal sem hl body) outs n _ _).trans
        (by rw [gather_map (RD.p (K := K)) rfl, gather_map (RD.p (K := K)) rfl]; rfl)
  | .cond c ins thn thnOut els elsOut, env => by
      rw [evalJEqn_cond, evalPEqn_cond, ← getD_map (RD.p (K := K)) rfl]
      split <;> exact congrArg (fun v => [v]) ((getD_map (RD.p (K := K)) rfl _ _).trans
        (congrArg (List.getD · _ default) ((evalJProg_primal sem hl _ _).trans
          (congrArg (evalPProg sem _) (gather_map (RD.p (K := K)) rfl env ins)))))
end

end Field
end Genjax.Adev2

import GenjaxModel.Model.Smc
import Mathlib.Algebra.Field.Basic
import Mathlib.Tactic.Ring
import Mathlib.Tactic.FieldSimp
/-!
  Exact expectations over the finite-support distributions of `Model/Smc.lean`, and on top of them
  C10: proper weighting of SMC particle systems and unbiasedness of the evidence estimate for
  finite-support models.  γ(φ) denotes the unnormalised target integral; one SMC move turns
  "E[est φ] = γ(φ) for all φ" into the same statement for the next target.
-/
namespace Genjax.Smc
open FinDist

variable {K : Type} [Field K] {X : Type}

/-! ### algebra of `sumK` -/

theorem sumK_nil : sumK ([] : List K) = 0 := rfl
theorem sumK_cons (x : K) (xs : List K) : sumK (x :: xs) = x + sumK xs := rfl

theorem sumK_append (xs ys : List K) : sumK (xs ++ ys) = sumK xs + sumK ys := by
  induction xs with
  | nil => simp only [List.nil_append, sumK_nil, zero_add]
  | cons x xs ih => simp only [List.cons_append, sumK_cons, ih, add_assoc]

theorem sumK_map_mul_left {α : Type} (l : List α) (c : K) (f : α → K) :
    sumK (l.map fun a => c * f a) = c * sumK (l.map f) := by
  induction l with
  | nil => simp only [List.map_nil, sumK_nil, mul_zero]
  | cons a l ih => simp only [List.map_cons, sumK_cons, ih, mul_add]

theorem sumK_map_add {α : Type} (l : List α) (f g : α → K) :
    sumK (l.map fun a => f a + g a) = sumK (l.map f) + sumK (l.map g) := by
  induction l with
  | nil => simp only [List.map_nil, sumK_nil, add_zero]
  | cons a l ih => simp only [List.map_cons, sumK_cons, ih]; ring

theorem sumK_replicate (n : Nat) (c : K) : sumK (List.replicate n c) = (n : K) * c := by
  induction n with
  | zero => simp only [List.replicate_zero, sumK_nil, Nat.cast_zero, zero_mul]
  | succ n ih => simp only [List.replicate_succ, sumK_cons, ih, Nat.cast_succ]; ring

theorem sumK_map_const {α : Type} (l : List α) (c : K) :
    sumK (l.map fun _ => c) = (l.length : K) * c := by
  rw [List.map_const', sumK_replicate]

theorem sumK_map_div {α : Type} (l : List α) (c : K) (f : α → K) :
    sumK (l.map fun a => f a / c) = sumK (l.map f) / c := by
  induction l with
  | nil => simp only [List.map_nil, sumK_nil, zero_div]
  | cons a l ih => simp only [List.map_cons, sumK_cons, ih, add_div]

theorem sumK_map_congr_fd {α : Type} (l : List α) (f g : α → K) (h : ∀ a ∈ l, f a = g a) :
    sumK (l.map f) = sumK (l.map g) := by
  rw [List.map_congr_left h]

theorem sumK_map_mul_right_fd {α : Type} (l : List α) (c : K) (f : α → K) :
    sumK (l.map fun a => f a * c) = sumK (l.map f) * c := by
  rw [mul_comm, ← sumK_map_mul_left]
  apply sumK_map_congr_fd
  intro a _
  rw [mul_comm]

theorem sumK_swap_fd {α β : Type} (l : List α) (m : List β) (f : α → β → K) :
    sumK (l.map fun a => sumK (m.map fun b => f a b))
      = sumK (m.map fun b => sumK (l.map fun a => f a b)) := by
  induction l with
  | nil =>
    simp only [List.map_nil, sumK_nil]
    rw [sumK_map_const, mul_zero]
  | cons a l ih =>
    simp only [List.map_cons, sumK_cons]
    rw [ih, ← sumK_map_add]

/-! ### algebra of `E` -/

theorem E_nil {α : Type} (f : α → K) : E ([] : FinDist K α) f = 0 := rfl
theorem E_cons {α : Type} (a : α) (p : K) (d : FinDist K α) (f : α → K) :
    E ((a, p) :: d) f = p * f a + E d f := rfl

theorem E_append {α : Type} (d₁ d₂ : FinDist K α) (f : α → K) :
    E (d₁ ++ d₂) f = E d₁ f + E d₂ f := by
  simp only [E, List.map_append, sumK_append]

theorem E_mul_left {α : Type} (d : FinDist K α) (c : K) (f : α → K) :
    E d (fun a => c * f a) = c * E d f := by
  induction d with
  | nil => simp only [E_nil, mul_zero]
  | cons x d ih => obtain ⟨a, p⟩ := x; simp only [E_cons, ih]; ring

theorem E_mul_right {α : Type} (d : FinDist K α) (c : K) (f : α → K) :
    E d (fun a => f a * c) = E d f * c := by
  induction d with
  | nil => simp only [E_nil, zero_mul]
  | cons x d ih => obtain ⟨a, p⟩ := x; simp only [E_cons, ih]; ring

theorem E_div {α : Type} (d : FinDist K α) (c : K) (f : α → K) :
    E d (fun a => f a / c) = E d f / c := by
  simp only [div_eq_mul_inv, E_mul_right]

theorem E_add {α : Type} (d : FinDist K α) (f g : α → K) :
    E d (fun a => f a + g a) = E d f + E d g := by
  induction d with
  | nil => simp only [E_nil, add_zero]
  | cons x d ih => obtain ⟨a, p⟩ := x; simp only [E_cons, ih]; ring

theorem E_const {α : Type} (d : FinDist K α) (c : K) : E d (fun _ => c) = mass d * c := by
  rw [mass, ← E_mul_right]
  simp only [one_mul]

theorem E_map_scale {β : Type} (d : FinDist K β) (p : K) (g : β → K) :
    E (d.map fun (b, q) => (b, p * q)) g = p * E d g := by
  induction d with
  | nil => simp only [List.map_nil, E_nil, mul_zero]
  | cons x d ih => obtain ⟨b, q⟩ := x; simp only [List.map_cons, E_cons, ih]; ring

theorem E_map_fst {α β : Type} (d : FinDist K α) (h : α → β) (g : β → K) :
    E (d.map fun (a, p) => (h a, p)) g = E d (fun a => g (h a)) := by
  induction d with
  | nil => simp only [List.map_nil, E_nil]
  | cons x d ih => obtain ⟨a, p⟩ := x; simp only [List.map_cons, E_cons, ih]

theorem mass_map_fst {α β : Type} (d : FinDist K α) (h : α → β) :
    mass (d.map fun (a, p) => (h a, p)) = mass d := by
  simp only [mass, E_map_fst]

theorem E_map_div {α β : Type} (l : List α) (h : α → β) (c : α → K) (t : K) (ψ : β → K) :
    E (l.map fun a => (h a, c a / t)) ψ = sumK (l.map fun a => c a * ψ (h a)) / t := by
  simp only [E, List.map_map]
  rw [← sumK_map_div]
  exact congrArg sumK (List.map_congr_left fun a _ => div_mul_eq_mul_div _ _ _)

theorem E_pure {α : Type} (a : α) (g : α → K) : E (pure a : FinDist K α) g = g a := by
  simp only [FinDist.pure, E_cons, E_nil, one_mul, add_zero]

theorem bind_cons {α β : Type} (a : α) (p : K) (d : FinDist K α) (f : α → FinDist K β) :
    FinDist.bind ((a, p) :: d) f
      = ((f a).map fun (b, q) => (b, p * q)) ++ FinDist.bind d f := by
  simp only [FinDist.bind, List.flatMap_cons]

theorem E_bind {α β : Type} (d : FinDist K α) (f : α → FinDist K β) (g : β → K) :
    E (bind d f) g = E d (fun a => E (f a) g) := by
  induction d with
  | nil => rfl
  | cons x d ih =>
    obtain ⟨a, p⟩ := x
    rw [bind_cons, E_append, E_map_scale, ih, E_cons]

/-! ### supports -/

/-- with multiplicity -/
def supp {α : Type} (d : FinDist K α) : List α := d.map Prod.fst

theorem E_congr_supp {α : Type} (d : FinDist K α) (f g : α → K)
    (h : ∀ a ∈ supp d, f a = g a) : E d f = E d g :=
  congrArg sumK (List.map_congr_left fun ⟨a, p⟩ hap => by
    show p * f a = p * g a
    rw [h a (List.mem_map_of_mem hap)])

theorem mem_supp_pure {α : Type} (a b : α) (h : b ∈ supp (FinDist.pure a : FinDist K α)) :
    b = a := by
  simpa [supp, FinDist.pure] using h

theorem mem_supp_bind {α β : Type} (d : FinDist K α) (f : α → FinDist K β) (b : β)
    (h : b ∈ supp (FinDist.bind d f)) : ∃ a ∈ supp d, b ∈ supp (f a) := by
  obtain ⟨⟨b', r⟩, hmem, rfl⟩ := List.mem_map.mp h
  obtain ⟨⟨a, p⟩, hap, hb⟩ := List.mem_flatMap.mp hmem
  obtain ⟨⟨b'', q⟩, hbq, heq⟩ := List.mem_map.mp hb
  cases heq
  exact ⟨a, List.mem_map_of_mem hap, List.mem_map.mpr ⟨_, hbq, rfl⟩⟩

/-! ### independent products -/

theorem length_of_mem_supp_sequence {α : Type} (ds : List (FinDist K α)) (as : List α)
    (h : as ∈ supp (sequence ds)) : as.length = ds.length := by
  induction ds generalizing as with
  | nil =>
    have := mem_supp_pure _ _ h
    subst this; rfl
  | cons d ds ih =>
    obtain ⟨a, -, h1⟩ := mem_supp_bind _ _ _ h
    obtain ⟨as', h2, h3⟩ := mem_supp_bind _ _ _ h1
    have := mem_supp_pure _ _ h3
    subst this
    simp only [List.length_cons, ih as' h2]

theorem mass_sequence {α : Type} (ds : List (FinDist K α)) (hm : ∀ d ∈ ds, mass d = 1) :
    mass (sequence ds) = 1 := by
  induction ds with
  | nil => simp only [sequence, mass, E_pure]
  | cons d ds ih =>
    have h1 := ih (fun d' hd' => hm d' (List.mem_cons_of_mem _ hd'))
    have h2 := hm d List.mem_cons_self
    simp only [mass] at h1 h2 ⊢
    simp only [sequence, E_bind, E_pure, h1, h2]

theorem E_sequence_sum {α : Type} (ds : List (FinDist K α)) (hm : ∀ d ∈ ds, mass d = 1)
    (f : α → K) :
    E (sequence ds) (fun as => sumK (as.map f)) = sumK (ds.map fun d => E d f) := by
  induction ds with
  | nil => simp only [sequence, E_pure, List.map_nil]
  | cons d ds ih =>
    have hm' : ∀ d' ∈ ds, mass d' = 1 := fun d' hd' => hm d' (List.mem_cons_of_mem _ hd')
    have h1 := ih hm'
    have h2 := hm d List.mem_cons_self
    have h3 := mass_sequence ds hm'
    simp only [sequence, E_bind, E_pure, List.map_cons, sumK_cons, E_add, E_const, h1, h2, h3,
      one_mul]

theorem E_sequence_length {α : Type} (ds : List (FinDist K α)) (hm : ∀ d ∈ ds, mass d = 1)
    (g : Nat → K) :
    E (sequence ds) (fun as => g as.length) = g ds.length := by
  rw [E_congr_supp _ _ (fun _ => g ds.length)
    (fun as h => by rw [length_of_mem_supp_sequence ds as h]), E_const, mass_sequence ds hm, one_mul]

/-! ### the moves of SMC -/

/-- one importance-sampling step is unbiased: E_q[p/q] = Σ p -/
theorem is_unbiased (xs : List X) (p q : X → K) (hq : ∀ x ∈ xs, q x ≠ 0) :
    E (xs.map fun x => (x, q x)) (fun x => p x / q x) = sumK (xs.map p) := by
  induction xs with
  | nil => rfl
  | cons x xs ih =>
    simp only [List.map_cons, E_cons, sumK_cons]
    rw [ih (fun y hy => hq y (List.mem_cons_of_mem _ hy)),
      mul_div_cancel₀ _ (hq x List.mem_cons_self)]

/-- a step that moves every particle independently - `D xw` is the distribution of the successor
    (state and weight) of the particle `xw` - and sets the accumulated estimate to `acc` -/
theorem E_particles_est (s : Sys K X) (D : X × K → FinDist K (X × K))
    (hD : ∀ xw, mass (D xw) = 1) (acc : K) (φ : X → K) :
    E (FinDist.bind (sequence (s.parts.map D))
          fun parts' => FinDist.pure ({ parts := parts', acc := acc } : Sys K X))
        (fun s' => s'.est φ)
      = acc * (sumK (s.parts.map fun xw => E (D xw) fun yw => yw.2 * φ yw.1)
          / (s.parts.length : K)) := by
  have hm : ∀ d ∈ s.parts.map D, mass d = 1 := fun d hd => by
    obtain ⟨xw, -, rfl⟩ := List.mem_map.mp hd
    exact hD xw
  simp only [E_bind, E_pure]
  rw [E_congr_supp _ _
      (fun parts' => acc * (sumK (parts'.map fun yw => yw.2 * φ yw.1) / (s.parts.length : K)))
      (fun as h => by
        simp only [Sys.est, length_of_mem_supp_sequence _ as h, List.length_map]),
    E_mul_left, E_div, E_sequence_sum _ hm, List.map_map]
  rfl

theorem particles_length {l : List (X × K)} {D : X × K → FinDist K (X × K)} {acc : K}
    {s' : Sys K X} (h : s' ∈ supp (FinDist.bind (sequence (l.map D))
      fun parts' => FinDist.pure ({ parts := parts', acc := acc } : Sys K X))) :
    s'.parts.length = l.length := by
  obtain ⟨as, h1, h2⟩ := mem_supp_bind _ _ _ h
  rw [mem_supp_pure _ _ h2, length_of_mem_supp_sequence _ as h1, List.length_map]

/-- extend (and init) step: E[est φ after the step] = est (Kφ) before it, where
    (Kφ)(x) = Σ_x' q(x'|x)·G(x,x')·φ(x') is the incremental target kernel applied to φ -/
theorem extend_est (q : X → FinDist K X) (G : X → X → K) (s : Sys K X)
    (hq : ∀ x, mass (q x) = 1) (φ : X → K) :
    E (extendStep q G s) (fun s' => s'.est φ) = s.est (fun x => E (q x) (fun x' => G x x' * φ x')) := by
  refine (E_particles_est s (fun xw => (q xw.1).map fun (x', p) => ((x', xw.2 * G xw.1 x'), p))
    (fun xw => (mass_map_fst (q xw.1) fun x' => (x', xw.2 * G xw.1 x')).trans (hq xw.1)) s.acc
    φ).trans ?_
  simp only [Sys.est]
  congr 3
  apply List.map_congr_left
  rintro ⟨x, w⟩ -
  rw [E_map_fst (q x) fun x' => (x', w * G x x'), ← E_mul_left]
  simp only [mul_assoc]

theorem extend_length (q : X → FinDist K X) (G : X → X → K) (s s' : Sys K X)
    (h : s' ∈ supp (extendStep q G s)) : s'.parts.length = s.parts.length :=
  particles_length h

theorem rejuvenateStep_eq (k : X → FinDist K X) (s : Sys K X) :
    rejuvenateStep k s = extendStep k (fun _ _ => 1) s := by
  simp only [rejuvenateStep, extendStep, mul_one]

theorem rejuvenate_est (k : X → FinDist K X) (s : Sys K X) (hk : ∀ x, mass (k x) = 1) (φ : X → K) :
    E (rejuvenateStep k s) (fun s' => s'.est φ) = s.est (fun x => E (k x) φ) := by
  rw [rejuvenateStep_eq, extend_est k _ s hk]
  simp only [one_mul]

theorem rejuvenate_length (k : X → FinDist K X) (s s' : Sys K X)
    (h : s' ∈ supp (rejuvenateStep k s)) : s'.parts.length = s.parts.length :=
  particles_length h

theorem resample_est (s : Sys K X) (hn : (s.parts.length : K) ≠ 0)
    (ht : sumK (s.parts.map (·.2)) ≠ 0) (φ : X → K) :
    E (resampleStep s) (fun s' => s'.est φ) = s.est φ := by
  have hone := E_map_div s.parts (fun xw => (xw.1, (1 : K))) (fun xw => xw.2)
    (sumK (s.parts.map (·.2)))
  refine (E_particles_est s (fun _ => _) (fun _ => ?_) _ φ).trans ?_
  · rw [mass, hone]
    simp only [mul_one]
    exact div_self ht
  · rw [sumK_map_const, hone]
    simp only [one_mul, Sys.est]
    field_simp

theorem resample_length (s s' : Sys K X) (h : s' ∈ supp (resampleStep s)) :
    s'.parts.length = s.parts.length :=
  particles_length h

theorem maybeResample_est' (trigger : List K → Bool) (s : Sys K X) (hn : (s.parts.length : K) ≠ 0)
    (ht : trigger (s.parts.map (·.2)) = true → sumK (s.parts.map (·.2)) ≠ 0) (φ : X → K) :
    E (maybeResample trigger s) (fun s' => s'.est φ) = s.est φ := by
  unfold maybeResample
  split
  · next h => exact resample_est s hn (ht h) φ
  · exact E_pure s _

theorem maybeResample_est (trigger : List K → Bool) (s : Sys K X) (hn : (s.parts.length : K) ≠ 0)
    (ht : sumK (s.parts.map (·.2)) ≠ 0) (φ : X → K) :
    E (maybeResample trigger s) (fun s' => s'.est φ) = s.est φ :=
  maybeResample_est' trigger s hn (fun _ => ht) φ

theorem maybeResample_length (trigger : List K → Bool) (s s' : Sys K X)
    (h : s' ∈ supp (maybeResample trigger s)) : s'.parts.length = s.parts.length := by
  unfold maybeResample at h
  split at h
  · exact resample_length s s' h
  · rw [mem_supp_pure _ _ h]

/-- one step of `rejuvenation_smc` / a hand-composed pipeline: extend with proposal q and incremental
    weight G, adaptive resampling, optional rejuvenation by a kernel k -/
structure Step (K : Type) (X : Type) where
  q : X → FinDist K X
  G : X → X → K
  trigger : List K → Bool
  k : X → FinDist K X

def runSteps : List (Step K X) → Sys K X → FinDist K (Sys K X)
  | [], s => pure s
  | st :: rest, s =>
    bind (extendStep st.q st.G s) fun s1 =>
    bind (maybeResample st.trigger s1) fun s2 =>
    bind (rejuvenateStep st.k s2) fun s3 => runSteps rest s3

theorem E_runSteps_cons (st : Step K X) (rest : List (Step K X)) (s : Sys K X)
    (f : Sys K X → K) :
    E (runSteps (st :: rest) s) f
      = E (extendStep st.q st.G s) fun s1 => E (maybeResample st.trigger s1) fun s2 =>
          E (rejuvenateStep st.k s2) fun s3 => E (runSteps rest s3) f := by
  simp only [runSteps, E_bind]

theorem E_runSteps_nil (s : Sys K X) (f : Sys K X → K) : E (runSteps [] s) f = f s := E_pure s f

/-- the target functional pulled back through the steps:
    φ ↦ K₁(k₁(K₂(k₂(… φ))))  with (K_t ψ)(x) = Σ_x' q_t(x'|x) G_t(x,x') ψ(x') -/
def pull : List (Step K X) → (X → K) → X → K
  | [], φ => φ
  | st :: rest, φ => fun x => E (st.q x) (fun x' => st.G x x' * E (st.k x') (pull rest φ))

/-- Unbiasedness of SMC (finite support): E[ acc·(1/N)·Σ w_i φ(x_i) ] after the pipeline equals the
    same estimator of the pulled-back function before it.  With φ = 1 and the initial system (N copies
    of a start state, weights 1, acc 1) this is E[exp(log_marginal_likelihood())] = marginal
    likelihood. -/
theorem smc_unbiased (steps : List (Step K X)) (s : Sys K X)
    (hN : (s.parts.length : K) ≠ 0)
    (hq : ∀ st ∈ steps, ∀ x, mass (st.q x) = 1) (hk : ∀ st ∈ steps, ∀ x, mass (st.k x) = 1)
    (htrig : ∀ st ∈ steps, ∀ ws, st.trigger ws = true → sumK ws ≠ 0) (φ : X → K) :
    E (runSteps steps s) (fun s' => s'.est φ) = s.est (pull steps φ) := by
  induction steps generalizing s with
  | nil => exact E_runSteps_nil s _
  | cons st rest ih =>
    have hq' : ∀ st' ∈ rest, ∀ x, mass (st'.q x) = 1 :=
      fun st' h => hq st' (List.mem_cons_of_mem _ h)
    have hk' : ∀ st' ∈ rest, ∀ x, mass (st'.k x) = 1 :=
      fun st' h => hk st' (List.mem_cons_of_mem _ h)
    have htrig' : ∀ st' ∈ rest, ∀ ws, st'.trigger ws = true → sumK ws ≠ 0 :=
      fun st' h => htrig st' (List.mem_cons_of_mem _ h)
    rw [E_runSteps_cons, pull, ← extend_est st.q st.G s (hq st List.mem_cons_self)]
    apply E_congr_supp
    intro s1 h1
    have l1 : s1.parts.length = s.parts.length := extend_length _ _ _ _ h1
    have hN1 : (s1.parts.length : K) ≠ 0 := by rw [l1]; exact hN
    rw [← maybeResample_est' st.trigger s1 hN1 (htrig st List.mem_cons_self _)]
    apply E_congr_supp
    intro s2 h2
    have l2 : s2.parts.length = s1.parts.length := maybeResample_length _ _ _ h2
    rw [← rejuvenate_est st.k s2 (hk st List.mem_cons_self)]
    apply E_congr_supp
    intro s3 h3
    have l3 : s3.parts.length = s2.parts.length := rejuvenate_length _ _ _ h3
    exact ih s3 (by rw [l3, l2]; exact hN1) hq' hk' htrig'

end Genjax.Smc

#print axioms Genjax.Smc.E_bind
#print axioms Genjax.Smc.E_pure
#print axioms Genjax.Smc.is_unbiased
#print axioms Genjax.Smc.E_sequence_sum
#print axioms Genjax.Smc.E_sequence_length
#print axioms Genjax.Smc.extend_est
#print axioms Genjax.Smc.rejuvenate_est
#print axioms Genjax.Smc.resample_est
#print axioms Genjax.Smc.maybeResample_est
#print axioms Genjax.Smc.smc_unbiased


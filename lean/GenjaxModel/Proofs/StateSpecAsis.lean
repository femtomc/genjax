import GenjaxModel.Proofs.StateSpecShape
/-!
  C19, the variant `nsAcrossScan = false` (the stacked states of a scan are merged at the root of
  the collected dictionary, top-level name by top-level name: genjax up to commit 29643bb): it
  refines the same spec on the programs accepted by `SPL.asisOK` (no scan under an open namespace,
  no top-level name clash between a scan and what was saved before it) - up to the order of the
  entries of the flat store.
-/
namespace Genjax.State

/-! ### well-formed key lists: a later key is never a prefix of (or equal to) an earlier key -/

def WfK (ks : List Path) : Prop := ks.Pairwise (fun k1 k2 => isPrefix k2 k1 = false)

theorem WfK_setKeys (ks : List Path) (p : Path) (h : WfK ks) : WfK (setKeys ks p) :=
  List.pairwise_append.mpr ⟨h.filter _, List.pairwise_singleton _ _, fun a ha b hb => by
    rw [List.mem_singleton.mp hb]
    exact (Bool.not_eq_true' _).mp (List.mem_filter.mp ha).2⟩

theorem WfK_applyEvents (evs : List Event) (s : Store) (h : WfK (keys s)) :
    WfK (keys (applyEvents evs s)) := by
  induction evs generalizing s with
  | nil => exact h
  | cons e evs ih => exact ih _ (keys_set s e.1 e.2 ▸ WfK_setKeys _ e.1 h)

theorem WfK_collectEvents (evs : List Event) : WfK (keys (collectEvents evs)) :=
  WfK_applyEvents evs [] List.Pairwise.nil

theorem WfK_nodup (ks : List Path) (h : WfK ks) : ks.Nodup :=
  h.imp fun hab he => by rw [he, isPrefix_refl] at hab; cases hab

/-! ### permuted stores with distinct keys answer look-ups alike -/

theorem get_eq_some_iff (s : Store) (hn : (keys s).Nodup) (q : Path) (v : SV) :
    s.get? q = some v ↔ (q, v) ∈ s := by
  induction s with
  | nil => exact ⟨fun h => (nomatch h), fun h => (nomatch h)⟩
  | cons e s ih =>
    have hn := List.nodup_cons.mp hn
    rw [Store.get?, List.find?_cons, List.mem_cons]
    by_cases h : e.1 = q
    · rw [beq_iff_eq.mpr h]
      refine ⟨fun hv => .inl (Prod.ext h.symm (Option.some.inj hv).symm), fun h1 => ?_⟩
      rcases h1 with h1 | h1
      · rw [← h1]; rfl
      · exact absurd (List.mem_map_of_mem (f := (·.1)) h1) (h ▸ hn.1)
    · rw [beq_false_of_ne h]
      exact (ih hn.2).trans ⟨.inr, fun h1 => h1.resolve_left fun h2 => h (congrArg Prod.fst h2).symm⟩

theorem get_perm (m s : Store) (hp : m.Perm s) (hn : (keys s).Nodup) (q : Path) :
    m.get? q = s.get? q :=
  Option.ext fun v => by
    rw [get_eq_some_iff m ((hp.map _).nodup_iff.mpr hn), get_eq_some_iff s hn, hp.mem_iff]

theorem set_perm (m s : Store) (hp : m.Perm s) (p : Path) (v : SV) :
    (Store.set m p v).Perm (Store.set s p v) :=
  (hp.filter _).append_right _

theorem applyEvents_perm (evs : List Event) (m s : Store) (hp : m.Perm s) :
    (applyEvents evs m).Perm (applyEvents evs s) := by
  induction evs generalizing m s with
  | nil => exact hp
  | cons e evs ih => exact ih _ _ (set_perm m s hp e.1 e.2)

/-! ### stacking permuted iteration stores -/

theorem stackStores_perm (ms ss : List Store)
    (h : List.Forall₂ (fun m s => m.Perm s ∧ (keys s).Nodup) ms ss) :
    (stackStores ms).Perm (stackStores ss) := by
  have hG : ∀ q : Path, ms.map (fun s => (s.get? q).getD (SV.stack []))
      = ss.map (fun s => (s.get? q).getD (SV.stack [])) := fun q =>
    List.forall₂_eq_eq_eq ▸ List.forall₂_map_left_iff.mpr (List.forall₂_map_right_iff.mpr
      (h.imp fun a b hab => congrArg (fun o => Option.getD o (SV.stack [])) (get_perm a b hab.1 hab.2 q)))
  cases h with
  | nil => exact .refl _
  | @cons m0 s0 ms' ss' h0 hrest =>
    show (m0.map fun e => (e.1, SV.stack ((m0 :: ms').map fun s => (s.get? e.1).getD (SV.stack [])))).Perm
      (s0.map fun e => (e.1, SV.stack ((s0 :: ss').map fun s => (s.get? e.1).getD (SV.stack []))))
    rw [funext fun e : Path × SV => congrArg (fun l => (e.1, SV.stack l)) (hG e.1)]
    exact h0.1.map _

/-! ### the merge at the root (`mergeScan ⟨false⟩`), characterised -/

def grp (l : Store) (name : String) : Store := l.filter fun e => e.1.head? == some name

def topIn (names : List String) (e : Path × SV) : Bool := names.any fun a => e.1.head? == some a

/-- the merge at the root in closed form (up to order, whatever the list of names) -/
theorem foldl_replaceTop (stacked : Store) (names : List String) (s : Store) :
    (names.foldl (fun s name => s.replaceTop name (grp stacked name)) s).Perm
      (s.filter (fun e => !topIn names e) ++ stacked.filter (topIn names)) := by
  induction names generalizing s with
  | nil => exact .of_eq (by simp [topIn])
  | cons a names ih =>
    have hcons : ∀ e : Path × SV, topIn (a :: names) e = (e.1.head? == some a || topIn names e) :=
      fun e => List.any_cons
    -- the entries under `a` that no later name replaces, and the entries under the later names
    have h1 : (grp stacked a).filter (fun e => !topIn names e)
        = (stacked.filter (topIn (a :: names))).filter (fun e => !topIn names e) := by
      rw [grp, List.filter_filter, List.filter_filter]
      exact List.filter_congr fun e _ => by rw [hcons]; cases topIn names e <;> simp
    have h2 : stacked.filter (topIn names)
        = (stacked.filter (topIn (a :: names))).filter (topIn names) := by
      rw [List.filter_filter]
      exact List.filter_congr fun e _ => by rw [hcons]; cases topIn names e <;> simp
    refine (ih _).trans ?_
    show (((s.filter fun e => !(e.1.head? == some a)) ++ grp stacked a).filter _ ++ _).Perm _
    rw [List.filter_append, List.filter_filter, List.append_assoc, h1, h2]
    refine List.Perm.append (.of_eq (List.filter_congr fun e _ => ?_))
      (List.perm_append_comm.trans (List.filter_append_perm _ _))
    rw [hcons, Bool.not_or, Bool.and_comm]

theorem mergeScan_false_perm (st : St) (stacked : Store) (hne : ∀ e ∈ stacked, e.1 ≠ [])
    (hdis : ∀ e ∈ st.store, ∀ e' ∈ stacked, e.1.head? ≠ e'.1.head?) :
    (mergeScan ⟨false⟩ st stacked).store.Perm (st.store ++ stacked) := by
  have hmem : ∀ a, a ∈ topNames stacked ↔ ∃ e ∈ stacked, e.1.head? = some a := fun a => by
    rw [topNames, List.mem_eraseDups, List.mem_filterMap]
  refine (foldl_replaceTop stacked (topNames stacked) st.store).trans (.of_eq ?_)
  rw [List.filter_eq_self.mpr, List.filter_eq_self.mpr]
  · intro e he
    cases hk : e.1 with
    | nil => exact absurd hk (hne e he)
    | cons a rest =>
      exact List.any_eq_true.mpr ⟨a, (hmem a).mpr ⟨e, he, hk ▸ rfl⟩, by rw [hk]; exact beq_self_eq_true _⟩
  · intro e he
    refine (Bool.not_eq_true' _).mpr (Bool.eq_false_iff.mpr fun h => ?_)
    obtain ⟨a, ha, hea⟩ := List.any_eq_true.mp h
    obtain ⟨e', he', he'2⟩ := (hmem a).mp ha
    exact hdis e he e' he' ((eq_of_beq hea).trans he'2.symm)

/-! ### replaying events that do not touch anything is appending them -/

theorem isPrefix_head (p q : Path) (hp : p ≠ []) (h : isPrefix p q = true) : q.head? = p.head? := by
  cases p with
  | nil => exact absurd rfl hp
  | cons a p =>
    cases q with
    | nil => cases h
    | cons b q => exact congrArg some (eq_of_beq (Bool.and_eq_true_iff.mp h).1).symm

theorem applyEvents_no_interaction (l : List Event) (s : Store) (hw : WfK (keys l))
    (hno : ∀ e ∈ s, ∀ e' ∈ l, isPrefix e'.1 e.1 = false) : applyEvents l s = s ++ l := by
  induction l generalizing s with
  | nil => exact (List.append_nil s).symm
  | cons e l ih =>
    have hw := List.pairwise_cons.mp hw
    have hset : Store.set s e.1 e.2 = s ++ [e] := congrArg (· ++ _) (List.filter_eq_self.mpr
      fun x hx => (Bool.not_eq_true' _).mpr (hno x hx e List.mem_cons_self))
    refine (congrArg (applyEvents l) hset).trans ((ih _ hw.2 fun x hx e' he' => ?_).trans
      (List.append_assoc ..))
    rcases List.mem_append.mp hx with hx | hx
    · exact hno x hx e' (List.mem_cons_of_mem _ he')
    · rw [List.mem_singleton.mp hx]
      exact hw.1 e'.1 (List.mem_map_of_mem (f := (·.1)) he')

/-! ### the refinement for `nsAcrossScan = false` -/

/-- every key starts with a top-level name from `seen` (in particular no key is empty) -/
def HeadsIn (seen : List String) (ks : List Path) : Prop :=
  ∀ k ∈ ks, ∃ a rest, k = a :: rest ∧ a ∈ seen

theorem HeadsIn.nil (seen : List String) : HeadsIn seen [] := fun _ hk => nomatch hk

theorem HeadsIn.mono {seen seen' : List String} {ks : List Path} (h : HeadsIn seen ks)
    (hs : ∀ a ∈ seen, a ∈ seen') : HeadsIn seen' ks := fun k hk =>
  let ⟨a, rest, h1, h2⟩ := h k hk
  ⟨a, rest, h1, hs a h2⟩

theorem HeadsIn_applyEvents (seen : List String) (evs : List Event) (s : Store)
    (h1 : HeadsIn seen (keys s)) (h2 : HeadsIn seen (evs.map (·.1))) :
    HeadsIn seen (keys (applyEvents evs s)) := fun k hk => by
  obtain ⟨e, he, rfl⟩ := List.mem_map.mp hk
  rcases mem_applyEvents evs s e he with h | h
  · exact h1 _ (List.mem_map_of_mem h)
  · exact h2 _ (List.mem_map_of_mem h)

/-- the keys of the stacked events are the keys of the first iteration -/
theorem keys_stackEvents_of_forall (P : List Path → Prop) (h0 : P []) (ss : List Store)
    (h : ∀ s ∈ ss, P (keys s)) : P (keys (stackEvents ss)) := by
  rw [keys_stackEvents]
  cases ss with
  | nil => exact h0
  | cons s0 _ => exact h s0 List.mem_cons_self

theorem mergeScan_false_applyEvents {seen bodySeen : List String} (hdisj : ∀ a ∈ bodySeen, a ∉ seen)
    {st : St} {s stacked evs : Store} (hp : st.store.Perm s) (hstack : stacked.Perm evs)
    (hh : HeadsIn seen (keys s)) (hheads : HeadsIn bodySeen (keys evs)) (hwf : WfK (keys evs)) :
    (mergeScan ⟨false⟩ st stacked).store.Perm (applyEvents evs s) := by
  have hne : ∀ e ∈ evs, e.1 ≠ [] := fun e he hnil => by
    obtain ⟨a, rest, h1, _⟩ := hheads e.1 (List.mem_map_of_mem he)
    rw [hnil] at h1; cases h1
  have hdis : ∀ e ∈ s, ∀ e' ∈ evs, e.1.head? ≠ e'.1.head? := fun e he e' he' heq => by
    obtain ⟨a, rest, h1, h2⟩ := hh e.1 (List.mem_map_of_mem he)
    obtain ⟨a', rest', h1', h2'⟩ := hheads e'.1 (List.mem_map_of_mem he')
    rw [h1, h1'] at heq
    exact hdisj a' h2' (Option.some.inj heq ▸ h2)
  refine (mergeScan_false_perm st stacked (fun e he => hne e (hstack.mem_iff.mp he))
    fun e he e' he' => hdis e (hp.mem_iff.mp he) e' (hstack.mem_iff.mp he')).trans ?_
  rw [applyEvents_no_interaction evs s hwf fun e he e' he' => Bool.eq_false_iff.mpr fun hpre =>
    hdis e he e' he' (isPrefix_head _ _ (hne e' he') hpre)]
  exact hp.append hstack

/-- what the refinement says for one equation / block under `nsAcrossScan = false` -/
def AsisRefines (exec : List Nat → List Nat → St → Option St)
    (saves : List String → List String → List Nat → List Nat → Option (List Event × List String))
    (ns seen ns' seen' : List String) (idx lanes : List Nat) : Prop :=
  ∃ evs, saves [] ns idx lanes = some (evs, ns') ∧ HeadsIn seen' (evs.map (·.1)) ∧
    (∀ a ∈ seen, a ∈ seen') ∧
    ∀ (m s : Store), m.Perm s → WfK (keys s) → HeadsIn seen (keys s) →
      ∃ m', exec idx lanes ⟨m, ns⟩ = some ⟨m', ns'⟩ ∧ m'.Perm (applyEvents evs s)

theorem asisRefines_noevent {exec : Runner} {saves : Saver}
    {ns seen ns' : List String} {idx lanes : List Nat}
    (h1 : saves [] ns idx lanes = some ([], ns'))
    (h2 : ∀ m, exec idx lanes ⟨m, ns⟩ = some ⟨m, ns'⟩) :
    AsisRefines exec saves ns seen ns' seen idx lanes :=
  ⟨[], h1, .nil _, fun _ h => h, fun m _ hp _ _ => ⟨m, h2 m, hp⟩⟩

theorem asisRefines_save {exec : Runner} {saves : Saver}
    {ns seen : List String} {idx lanes : List Nat} {a : String} (rest : Path) (v : SV)
    (h1 : saves [] ns idx lanes = some ([(a :: rest, v)], ns))
    (h2 : ∀ m, exec idx lanes ⟨m, ns⟩ = some ⟨Store.set m (a :: rest) v, ns⟩) :
    AsisRefines exec saves ns seen ns (seen ++ [a]) idx lanes :=
  ⟨_, h1, fun _ hk => ⟨a, rest, List.mem_singleton.mp hk, List.mem_append_right _ List.mem_cons_self⟩,
    fun _ ha => List.mem_append_left _ ha, fun m s hp _ _ => ⟨_, h2 m, set_perm m s hp _ _⟩⟩

theorem AsisRefines.seq {e1 e2 : Runner} {s1 s2 : Saver}
    {ns seen ns1 seen1 ns' seen' : List String} {idx lanes : List Nat}
    (h1 : AsisRefines e1 s1 ns seen ns1 seen1 idx lanes)
    (h2 : AsisRefines e2 s2 ns1 seen1 ns' seen' idx lanes) :
    AsisRefines (e1.seq e2) (s1.seq s2) ns seen ns' seen' idx lanes := by
  obtain ⟨evs1, hsv1, hhd1, hmono1, hex1⟩ := h1
  obtain ⟨evs2, hsv2, hhd2, hmono2, hex2⟩ := h2
  refine ⟨evs1 ++ evs2, ?_, fun k hk => ?_, fun a ha => hmono2 a (hmono1 a ha), fun m s hp hw hh => ?_⟩
  · rw [Saver.seq, hsv1]; show (s2 [] ns1 idx lanes).bind _ = _; rw [hsv2]; rfl
  · rcases List.mem_append.mp (List.map_append ▸ hk) with hk | hk
    · exact hhd1.mono hmono2 k hk
    · exact hhd2 k hk
  · obtain ⟨m1, hm1, hp1⟩ := hex1 m s hp hw hh
    obtain ⟨m2, hm2, hp2⟩ := hex2 m1 (applyEvents evs1 s) hp1 (WfK_applyEvents evs1 s hw)
      (HeadsIn_applyEvents seen1 evs1 s (hh.mono hmono1) hhd1)
    refine ⟨m2, ?_, applyEvents_append .. ▸ hp2⟩
    show (e1 idx lanes ⟨m, ns⟩).bind _ = _
    rw [hm1]; exact hm2

/-- the refinement for the equations / blocks accepted by `asisOK` -/
def AsisSpec (asisOK : List String × List String → Option (List String × List String))
    (exec : Runner) (saves : Saver) : Prop :=
  ∀ (ns seen ns' seen' : List String) (idx lanes : List Nat),
    asisOK (ns, seen) = some (ns', seen') → AsisRefines exec saves ns seen ns' seen' idx lanes

theorem SPL.asisOK_cons (x : SP) (rest : SPL) (s : List String × List String) :
    (SPL.cons x rest).asisOK s =
      match x.asisOK s with
      | none => none
      | some s' => rest.asisOK s' := rfl

theorem SP.asisOK_scan (body : SPL) (n : Nat) (seen : List String) :
    (SP.scan body n).asisOK ([], seen) =
      match body.asisOK ([], []) with
      | none => none
      | some (_, bodySeen) =>
        if bodySeen.any (fun a => seen.contains a) then none else some ([], seen ++ bodySeen) := rfl

theorem AsisSpec.scan {body : SPL} (ih : AsisSpec body.asisOK (body.exec ⟨false⟩) body.saves) (n : Nat) :
    AsisSpec (SP.scan body n).asisOK ((SP.scan body n).exec ⟨false⟩) (SP.scan body n).saves := by
  intro ns seen ns' seen' idx lanes h
  -- `asisOK`: no namespace open, the body is accepted, its top-level names are new
  cases ns with
  | cons a t => cases h
  | nil =>
    rw [SP.asisOK_scan] at h
    cases hb : body.asisOK ([], []) with
    | none => rw [hb] at h; cases h
    | some r =>
      obtain ⟨nsb, bodySeen⟩ := r
      rw [hb] at h
      change (if bodySeen.any (fun a => seen.contains a) then none else some ([], seen ++ bodySeen)) = _ at h
      split at h
      · cases h
      · next hany =>
        cases h
        have hdisj : ∀ a ∈ bodySeen, a ∉ seen := fun a ha hs =>
          hany (List.any_eq_true.mpr ⟨a, ha, List.contains_iff_mem.mpr hs⟩)
        -- every iteration, started from the empty interpreter state
        obtain ⟨ms, rs, hms, hrs, hR⟩ := mapM_forall2
          (R := fun (m : St) (r : List Event × List String) =>
            m.store.Perm (collectEvents r.1) ∧ HeadsIn bodySeen (keys (collectEvents r.1)))
          (fun i => body.exec ⟨false⟩ (idx ++ [i]) lanes ⟨[], []⟩)
          (fun i => body.saves ([] ++ []) [] (idx ++ [i]) lanes) (List.range n) fun i _ => by
            obtain ⟨evs, hsv, hhd, _, hex⟩ := ih [] [] nsb bodySeen (idx ++ [i]) lanes hb
            obtain ⟨mi, hmi, hpi⟩ := hex [] [] (.refl _) List.Pairwise.nil (.nil _)
            exact ⟨_, _, hmi, hsv, hpi, HeadsIn_applyEvents bodySeen evs [] (.nil _) hhd⟩
        -- the stacked iteration states, in the model and in the spec
        have hstack : (stackStores (ms.map (·.store))).Perm (stackEvents (rs.map fun r => collectEvents r.1)) :=
          (stackStores_perm _ _ (List.forall₂_map_left_iff.mpr (List.forall₂_map_right_iff.mpr
            (hR.imp fun _ r h => ⟨h.1, WfK_nodup _ (WfK_collectEvents r.1)⟩)))).trans
            (.of_eq (stackEvents_eq_stackStores _).symm)
        have hheads : HeadsIn bodySeen (keys (stackEvents (rs.map fun r => collectEvents r.1))) :=
          keys_stackEvents_of_forall _ (.nil _) _
            (List.forall_mem_map.mpr (forall2_right hR fun _ _ h => h.2))
        have hwf : WfK (keys (stackEvents (rs.map fun r => collectEvents r.1))) :=
          keys_stackEvents_of_forall _ List.Pairwise.nil _
            (List.forall_mem_map.mpr fun r _ => WfK_collectEvents r.1)
        exact ⟨_, by rw [SP.saves_scan, Saver.scan, hrs]; rfl,
          hheads.mono fun a ha => List.mem_append_right _ ha, fun a ha => List.mem_append_left _ ha,
          fun m s hp _ hh => ⟨_, by rw [SP.exec_scan, Runner.scan, hms]; rfl,
            mergeScan_false_applyEvents hdisj hp hstack hh hheads hwf⟩⟩

theorem asis_spec_both : (∀ x : SP, AsisSpec x.asisOK (x.exec ⟨false⟩) x.saves) ∧
    (∀ p : SPL, AsisSpec p.asisOK (p.exec ⟨false⟩) p.saves) :=
  SP.rec_both (m1 := fun x => AsisSpec x.asisOK (x.exec ⟨false⟩) x.saves)
    (m2 := fun p => AsisSpec p.asisOK (p.exec ⟨false⟩) p.saves)
    (tag := fun name id ns seen ns' seen' idx lanes h => by
      cases h
      cases ns with
      | nil => exact asisRefines_save [] _ rfl fun _ => rfl
      | cons a t => exact asisRefines_save (t ++ [name]) _ rfl fun _ => rfl)
    (leafTag := fun id ns seen ns' seen' idx lanes h => by
      cases ns with
      | nil => cases h
      | cons a t => cases h; exact asisRefines_save t _ rfl fun _ => rfl)
    (push := fun a ns seen ns' seen' idx lanes h => by
      cases h; exact asisRefines_noevent rfl fun _ => rfl)
    (pop := fun ns seen ns' seen' idx lanes h => by
      cases ns with
      | nil => cases h
      | cons a t => cases h; exact asisRefines_noevent rfl fun _ => rfl)
    (scan := fun _ n ih => ih.scan n)
    (vmap := fun _ n ih ns seen ns' seen' idx lanes h => ih ns seen ns' seen' idx (lanes ++ [n]) h)
    (other := fun ns seen ns' seen' idx lanes h => by
      cases h; exact asisRefines_noevent rfl fun _ => rfl)
    (nil := fun ns seen ns' seen' idx lanes h => by
      cases h; exact asisRefines_noevent rfl fun _ => rfl)
    (cons := fun x rest hx hrest ns seen ns' seen' idx lanes h => by
      rw [SPL.asisOK_cons] at h
      cases h1 : x.asisOK (ns, seen) with
      | none => rw [h1] at h; cases h
      | some s1 =>
        rw [h1] at h
        exact (hx ns seen s1.1 s1.2 idx lanes h1).seq (hrest s1.1 s1.2 ns' seen' idx lanes h))

theorem SP.asis_spec : (x : SP) → ∀ (ns seen ns' seen' : List String) (idx lanes : List Nat),
      x.asisOK (ns, seen) = some (ns', seen') →
      AsisRefines (x.exec ⟨false⟩) x.saves ns seen ns' seen' idx lanes :=
  asis_spec_both.1

end Genjax.State

import GenjaxModel.Model.Adev
import GenjaxModel.Model.AdevDet
import GenjaxModel.Model.Vi
import Mathlib.Algebra.Field.Basic
import Mathlib.Algebra.Order.Field.Basic
import Mathlib.Tactic.Ring
import Mathlib.Tactic.FieldSimp
import Mathlib.Tactic.Linarith
import Mathlib.Algebra.BigOperators.Field
import Mathlib.Analysis.SpecialFunctions.Log.Basic
/-!
  `Genjax.Adev`: a single ADEV site over a field (`Model/Adev.lean`, C11) - flip_enum is exact, REINFORCE
  (flip and finite support) and the measure-valued flip average to it; the straight-line deterministic
  interpreter of `Model/AdevDet.lean` is forward-mode AD (C15).
  `Genjax.Vi`: the optimiser of `Model/Vi.lean` returns every iterate; ELBO tight at the posterior and
  below the log evidence (C17).
-/
namespace Genjax.Adev

theorem Dual.ext {K : Type} : ∀ {a b : Dual K}, a.v = b.v → a.d = b.d → a = b
  | ⟨_, _⟩, ⟨_, _⟩, rfl, rfl => rfl

section Field
variable {K : Type} [Field K]

theorem flipEnum_d (p kT kF : Dual K) :
    (flipEnum p kT kF).d = p.d * kT.v + p.v * kT.d + ((0 - p.d) * kF.v + (1 - p.v) * kF.d) := rfl

theorem mvd_true (p kT kF : Dual K) : mvd true p kT kF = ⟨kT.v, kT.d + -(kF.v - kT.v) * p.d⟩ := rfl
theorem mvd_false (p kT kF : Dual K) : mvd false p kT kF = ⟨kF.v, kF.d + (kT.v - kF.v) * p.d⟩ := rfl

/-- flip_enum is exact (zero variance: no outcome is sampled) -/
theorem flipEnum_exact (p kT kF : Dual K) :
    (flipEnum p kT kF).v = Eflip p.v kT.v kF.v ∧
    (flipEnum p kT kF).d = p.d * (kT.v - kF.v) + p.v * kT.d + (1 - p.v) * kF.d := by
  refine ⟨rfl, ?_⟩
  rw [flipEnum_d]
  ring

theorem reinforce_term (p k : Dual K) (h : p.v ≠ 0) :
    p.v * (reinforce p k).d = p.d * k.v + p.v * k.d := by
  simp only [reinforce]
  field_simp
  ring

theorem reinforce_flip_unbiased (p kT kF : Dual K) (h1 : p.v ≠ 0) (h2 : 1 - p.v ≠ 0) :
    Eflip p.v (reinforce (flipProb p true) kT).v (reinforce (flipProb p false) kF).v = (flipEnum p kT kF).v ∧
    Eflip p.v (reinforce (flipProb p true) kT).d (reinforce (flipProb p false) kF).d = (flipEnum p kT kF).d := by
  have hT : p.v * (reinforce (flipProb p true) kT).d = p.d * kT.v + p.v * kT.d :=
    reinforce_term (flipProb p true) kT h1
  have hF : (1 - p.v) * (reinforce (flipProb p false) kF).d = (0 - p.d) * kF.v + (1 - p.v) * kF.d :=
    reinforce_term (flipProb p false) kF h2
  refine ⟨rfl, ?_⟩
  rw [Eflip, hT, hF, flipEnum_d]

/-- unlike REINFORCE, also at the boundary `p ∈ {0, 1}` -/
theorem mvd_flip_unbiased (p kT kF : Dual K) :
    Eflip p.v (mvd true p kT kF).v (mvd false p kT kF).v = (flipEnum p kT kF).v ∧
    Eflip p.v (mvd true p kT kF).d (mvd false p kT kF).d = (flipEnum p kT kF).d := by
  refine ⟨rfl, ?_⟩
  rw [Eflip, mvd_true, mvd_false, flipEnum_d]
  ring

theorem reinforce_finite_unbiased (ps ks : List (Dual K)) (hp : ∀ p ∈ ps, p.v ≠ 0) :
    reinforceExpectedTangent ps ks = (enumAll ps ks).d := by
  induction ps generalizing ks with
  | nil => rfl
  | cons p ps ih =>
    cases ks with
    | nil => rfl
    | cons k ks =>
      show p.v * (reinforce p k).d + reinforceExpectedTangent ps ks
        = p.d * k.v + p.v * k.d + (enumAll ps ks).d
      rw [reinforce_term p k (hp p List.mem_cons_self),
        ih ks fun q hq => hp q (List.mem_cons_of_mem _ hq)]

/-- the REINFORCE tangent is affine in the continuation's Dual, so an unbiased inner estimate may be
    replaced by its expectation: what makes a REINFORCE site in front of other primitives unbiased -/
theorem reinforce_affine (pb k1 k2 : Dual K) (w : K) :
    (reinforce pb ⟨w * k1.v + (1 - w) * k2.v, w * k1.d + (1 - w) * k2.d⟩).d =
      w * (reinforce pb k1).d + (1 - w) * (reinforce pb k2).d := by
  simp only [reinforce]
  ring

end Field

section Det
variable {K : Type} [Field K] [LinearOrder K]

theorem adev_det_kont (kont : Dual K → Dual K) (es : List (Eqn K)) (env : List (Dual K)) :
    adevEval kont es env = kont (jvpEval es env) := by
  induction es generalizing env with
  | nil => rfl
  | cons e es ih => exact ih _

/-- C15: on code without random choices the ADEV interpreter with the identity continuation is
    ordinary forward-mode AD -/
theorem adev_det_eq_jvp (es : List (Eqn K)) (env : List (Dual K)) :
    adevEval id es env = jvpEval es env :=
  adev_det_kont id es env

end Det

end Genjax.Adev

namespace Genjax.Vi
variable {K : Type} [Field K]

theorem optimize_length (grad : Nat → K → K) (lr : K) (n i : Nat) (p : K) :
    (optimize grad lr n i p).length = n := by
  induction n generalizing i p with
  | zero => simp only [optimize, List.length_nil]
  | succ n ih => simp only [optimize, List.length_cons, ih]

/-- peel the FIRST step off `iter` (which is defined by peeling the last one); `g'` is `g` shifted -/
theorem iter_succ_front (g g' : Nat → K → K) (hg : ∀ k, g' k = g (k + 1)) (lr : K) (j : Nat) (p : K) :
    iter g lr (j + 1) p = iter g' lr j (p + lr * g 0 p) := by
  induction j with
  | zero => rfl
  | succ j ih =>
    show iter g lr (j + 1) p + lr * g (j + 1) (iter g lr (j + 1) p) = iter g' lr j _ + lr * g' j (iter g' lr j _)
    rw [ih, hg]

theorem optimize_getD (grad : Nat → K → K) (lr : K) (d : K) (n i : Nat) (p : K) (j : Nat) (hj : j < n) :
    (optimize grad lr n i p).getD j d = iter (fun k => grad (i + k)) lr (j + 1) p := by
  induction n generalizing i p j with
  | zero => omega
  | succ n ih =>
    cases j with
    | zero => simp only [optimize, List.getD_cons_zero, iter, Nat.add_zero]
    | succ j =>
      simp only [optimize, List.getD_cons_succ]
      rw [ih (i + 1) _ j (by omega), iter_succ_front (fun k => grad (i + k)) _
        (fun k => congrArg grad (Nat.add_right_comm i 1 k)) lr (j + 1) p]
      rfl

theorem optimize_history (grad : Nat → K → K) (lr : K) (n : Nat) (p0 : K) :
    (optimize grad lr n 0 p0).length = n ∧
    ∀ i, i < n → (optimize grad lr n 0 p0).getD i p0 = iter grad lr (i + 1) p0 := by
  refine ⟨optimize_length grad lr n 0 p0, fun i hi => ?_⟩
  have h := optimize_getD grad lr p0 n 0 p0 i hi
  simpa only [Nat.zero_add] using h

theorem iter_step (grad : Nat → K → K) (lr : K) (n : Nat) (p0 : K) :
    iter grad lr (n + 1) p0 = iter grad lr n p0 + lr * grad n (iter grad lr n p0) := by
  rfl

/-- ELBO is tight at the exact posterior (linear domain): if q(z) = p(x,z)/p(x) then the importance
    ratio p(x,z)/q(z) equals p(x) -/
theorem elbo_tight (pxz px : K) (hz : pxz ≠ 0) (hx : px ≠ 0) : pxz / (pxz / px) = px := by
  field_simp

/-- ELBO ≤ log evidence (Gibbs' inequality): `q` a variational family on the finite support `s`,
    `p i = p(x, z_i)` the unnormalised joint weights.  Proof: log t ≤ t − 1 at t = (p_i / q_i) / Z. -/
theorem elbo_le_evidence {ι : Type*} (s : Finset ι) (q p : ι → ℝ)
    (hq : ∀ i ∈ s, 0 < q i) (hp : ∀ i ∈ s, 0 < p i) (hsum : ∑ i ∈ s, q i = 1) :
    ∑ i ∈ s, q i * Real.log (p i / q i) ≤ Real.log (∑ i ∈ s, p i) := by
  have hZ : 0 < ∑ i ∈ s, p i :=
    Finset.sum_pos hp (Finset.nonempty_of_sum_ne_zero (hsum.trans_ne one_ne_zero))
  set Z := ∑ i ∈ s, p i
  have hterm : ∀ i ∈ s, q i * Real.log (p i / q i) ≤ q i * Real.log Z + (p i / Z - q i) := by
    intro i hi
    have hx : 0 < p i / q i := div_pos (hp i hi) (hq i hi)
    have h1 := mul_le_mul_of_nonneg_left (Real.log_le_sub_one_of_pos (div_pos hx hZ)) (hq i hi).le
    rw [Real.log_div hx.ne' hZ.ne', mul_sub, mul_sub, mul_one, ← mul_div_assoc,
      mul_div_cancel₀ _ (hq i hi).ne'] at h1
    linarith
  calc ∑ i ∈ s, q i * Real.log (p i / q i)
      ≤ ∑ i ∈ s, (q i * Real.log Z + (p i / Z - q i)) := Finset.sum_le_sum hterm
    _ = Real.log Z := by
        rw [Finset.sum_add_distrib, ← Finset.sum_mul, Finset.sum_sub_distrib, ← Finset.sum_div, hsum,
          div_self hZ.ne', one_mul, sub_self, add_zero]
end Genjax.Vi

import GenjaxModel.Model.Interp
/-!
  The fall-through of the interpreters (`Model/Interp.lean`). Two facts carry everything: the guarded
  interpreter raises on a blocked Jaxpr and otherwise handles all sites in order (`run_eq`), and
  the unguarded one loses a site exactly on a blocked Jaxpr and otherwise handles all sites
  (`runOld_escaped_isEmpty`, `runOld_of_not_blocked`). The last section: splicing the bodies of
  `inline` calls (`inlineCalls`) leaves no `inline` call, and changes neither the sites nor what
  `runOld` returns.
-/
namespace Genjax.Interp

theorem isEmpty_append {α : Type} (a b : List α) : (a ++ b).isEmpty = (a.isEmpty && b.isEmpty) := by
  cases a <;> rfl

theorem holds_eq_not_isEmpty (j : J) : j.holds = !j.sites.isEmpty := by
  induction j with
  | done => rfl
  | prim r ih => exact ih
  | site i r _ => rfl
  | call k b r ihb ihr =>
    show (b.holds || r.holds) = !(b.sites ++ r.sites).isEmpty
    rw [ihb, ihr, isEmpty_append, Bool.not_and]

theorem holds_false_sites (j : J) (h : j.holds = false) : j.sites = [] :=
  List.isEmpty_iff.mp ((Bool.not_eq_false' _).mp (holds_eq_not_isEmpty j ▸ h))

theorem run_eq (j : J) : run j = if j.blocked then none else some j.sites := by
  induction j with
  | done => rfl
  | prim r ih => exact ih
  | site i r ih =>
    show (run r).map (i :: ·) = if r.blocked then none else some (i :: r.sites)
    rw [ih]; cases r.blocked <;> rfl
  | call k b r ihb ihr =>
    cases k with
    | rebind =>
      show (if b.holds then none else run r) = if (b.holds || r.blocked) then none else some (b.sites ++ r.sites)
      cases hb : b.holds
      · rw [holds_false_sites b hb, ihr]; rfl
      · rfl
    | _ =>
      show ((run b).bind fun hb => (run r).map fun hr => hb ++ hr)
        = if (b.blocked || r.blocked) then none else some (b.sites ++ r.sites)
      rw [ihb, ihr]; cases b.blocked <;> cases r.blocked <;> rfl

theorem run_handles_all (j : J) (h : List Nat) (hr : run j = some h) : h = j.sites := by
  rw [run_eq] at hr
  cases hb : j.blocked <;> rw [hb] at hr <;> cases hr
  rfl

/-- it raises exactly when it reaches a `rebind` equation that holds a site -/
theorem run_none_iff_blocked (j : J) : run j = none ↔ j.blocked = true := by
  rw [run_eq]; cases j.blocked <;> simp

theorem runOld_partition (j : J) : ((runOld j).1 ++ (runOld j).2).Perm j.sites := by
  induction j with
  | done => exact .refl _
  | prim r ih => exact ih
  | site i r ih => exact ih.cons i
  | call k b r ihb ihr =>
    cases k with
    | rebind =>
      show ((runOld r).1 ++ (b.sites ++ (runOld r).2)).Perm (b.sites ++ r.sites)
      exact List.perm_append_comm_assoc .. |>.trans (ihr.append_left _)
    | _ =>
      show (((runOld b).1 ++ (runOld r).1) ++ ((runOld b).2 ++ (runOld r).2)).Perm (b.sites ++ r.sites)
      refine .trans ?_ (ihb.append ihr)
      rw [List.append_assoc, List.append_assoc]
      exact (List.perm_append_comm_assoc ..).append_left _

theorem runOld_of_not_blocked (j : J) (h : j.blocked = false) : runOld j = (j.sites, []) := by
  induction j with
  | done => rfl
  | prim r ih => exact ih h
  | site i r ih => show (i :: (runOld r).1, (runOld r).2) = _; rw [ih h]; rfl
  | call k b r ihb ihr =>
    cases k with
    | rebind =>
      have h := Bool.or_eq_false_iff.mp h
      show ((runOld r).1, b.sites ++ (runOld r).2) = (b.sites ++ r.sites, [])
      rw [ihr h.2, holds_false_sites b h.1]; rfl
    | _ =>
      have h := Bool.or_eq_false_iff.mp h
      show ((runOld b).1 ++ (runOld r).1, (runOld b).2 ++ (runOld r).2) = _
      rw [ihb h.1, ihr h.2]; rfl

theorem runOld_escaped_isEmpty (j : J) : (runOld j).2.isEmpty = !j.blocked := by
  induction j with
  | done => rfl
  | prim r ih => exact ih
  | site i r ih => exact ih
  | call k b r ihb ihr =>
    cases k with
    | rebind =>
      show (b.sites ++ (runOld r).2).isEmpty = !(b.holds || r.blocked)
      rw [isEmpty_append, ihr, holds_eq_not_isEmpty, Bool.not_or, Bool.not_not]
    | _ =>
      show ((runOld b).2 ++ (runOld r).2).isEmpty = !(b.blocked || r.blocked)
      rw [isEmpty_append, ihb, ihr, Bool.not_or]

theorem runOld_escapes_iff (j : J) : (runOld j).2 ≠ [] ↔ run j = none := by
  rw [run_none_iff_blocked, Ne, ← List.isEmpty_iff, runOld_escaped_isEmpty]
  cases j.blocked <;> simp

theorem runOld_eq_run (j : J) (h : run j ≠ none) : run j = some (runOld j).1 := by
  rw [run_eq] at h ⊢
  cases hb : j.blocked
  · rw [runOld_of_not_blocked j hb]; rfl
  · rw [hb] at h; exact absurd rfl h

/-! ### Splicing the bodies of `inline` calls (the ADEV pre-pass, the State rule) -/

theorem sites_append (a b : J) : (a.append b).sites = a.sites ++ b.sites := by
  induction a with
  | done => rfl
  | prim r ih => exact ih
  | site i r ih => exact congrArg (i :: ·) ih
  | call k c r _ ihr => exact (congrArg (c.sites ++ ·) ihr).trans (List.append_assoc ..).symm

theorem runOld_append (a b : J) :
    runOld (a.append b) = ((runOld a).1 ++ (runOld b).1, (runOld a).2 ++ (runOld b).2) := by
  induction a with
  | done => rfl
  | prim r ih => exact ih
  | site i r ih => show (i :: (runOld (r.append b)).1, (runOld (r.append b)).2) = _; rw [ih]; rfl
  | call k c r _ ihr =>
    cases k with
    | rebind =>
      show ((runOld (r.append b)).1, c.sites ++ (runOld (r.append b)).2) = _
      rw [ihr, ← List.append_assoc]; rfl
    | _ =>
      show ((runOld c).1 ++ (runOld (r.append b)).1, (runOld c).2 ++ (runOld (r.append b)).2) = _
      rw [ihr, ← List.append_assoc, ← List.append_assoc]; rfl

theorem noInline_append (a b : J) (ha : a.noInline = true) (hb : b.noInline = true) :
    (a.append b).noInline = true := by
  induction a with
  | done => exact hb
  | prim r ih => exact ih ha
  | site i r ih => exact ih ha
  | call k c r _ ihr =>
    cases k with
    | inline => cases ha
    | interp =>
      have ha := Bool.and_eq_true_iff.mp ha
      exact Bool.and_eq_true_iff.mpr ⟨ha.1, ihr ha.2⟩
    | rebind => exact ihr ha

theorem inlineCalls_noInline (j : J) : j.inlineCalls.noInline = true := by
  induction j with
  | done => rfl
  | prim r ih => exact ih
  | site i r ih => exact ih
  | call k b r ihb ihr =>
    cases k with
    | inline => exact noInline_append _ _ ihb ihr
    | interp => exact Bool.and_eq_true_iff.mpr ⟨ihb, ihr⟩
    | rebind => exact ihr

theorem inlineCalls_sites (j : J) : j.inlineCalls.sites = j.sites := by
  induction j with
  | done => rfl
  | prim r ih => exact ih
  | site i r ih => exact congrArg (i :: ·) ih
  | call k b r ihb ihr =>
    cases k with
    | inline => show (b.inlineCalls.append r.inlineCalls).sites = _; rw [sites_append, ihb, ihr]; rfl
    | interp => show b.inlineCalls.sites ++ r.inlineCalls.sites = _; rw [ihb, ihr]; rfl
    | rebind => exact congrArg (b.sites ++ ·) ihr

theorem inlineCalls_runOld (j : J) : runOld j.inlineCalls = runOld j := by
  induction j with
  | done => rfl
  | prim r ih => exact ih
  | site i r ih => show (i :: (runOld r.inlineCalls).1, (runOld r.inlineCalls).2) = _; rw [ih]; rfl
  | call k b r ihb ihr =>
    cases k with
    | inline => show runOld (b.inlineCalls.append r.inlineCalls) = _; rw [runOld_append, ihb, ihr]; rfl
    | interp =>
      show ((runOld b.inlineCalls).1 ++ (runOld r.inlineCalls).1,
        (runOld b.inlineCalls).2 ++ (runOld r.inlineCalls).2) = _
      rw [ihb, ihr]; rfl
    | rebind =>
      show ((runOld r.inlineCalls).1, b.sites ++ (runOld r.inlineCalls).2) = _
      rw [ihr]; rfl

theorem noInline_siteInline (j : J) (h : j.noInline = true) : j.siteInline = false := by
  induction j with
  | done => rfl
  | prim r ih => exact ih h
  | site i r ih => exact ih h
  | call k b r ihb ihr =>
    cases k with
    | inline => cases h
    | interp =>
      have h := Bool.and_eq_true_iff.mp h
      exact Bool.or_eq_false_iff.mpr ⟨ihb h.1, ihr h.2⟩
    | rebind => exact ihr h

end Genjax.Interp

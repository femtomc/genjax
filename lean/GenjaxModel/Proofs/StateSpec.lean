import GenjaxModel.Model.StateSpec
import GenjaxModel.Proofs.State
/-!
  C19: the state interpreter (`SP.exec` at `nsAcrossScan = true`: scan states are merged under the
  namespaces enclosing the scan, as in genjax since 29643bb) refines the event-list specification
  `SP.saves` / `collectSpec` of `Model/StateSpec.lean`, for EVERY program.

  `SP.saves` / `SPL.saves` are built from three combinators on "savers" (`Saver.seq` for a block,
  `Saver.scan`, and shifting `lanes` for a vmap), `SP.exec` / `SPL.exec` from the same three on
  "runners"; a fact about all programs is proved on the primitive equations and through the
  combinators, then `SP.rec_both`.
-/
namespace Genjax.State

/-! ### replaying events -/

/-- later write wins -/
def applyEvents (evs : List Event) (s : Store) : Store :=
  evs.foldl (fun s e => Store.set s e.1 e.2) s

theorem applyEvents_append (e1 e2 : List Event) (s : Store) :
    applyEvents (e1 ++ e2) s = applyEvents e2 (applyEvents e1 s) := List.foldl_append

/-! ### the two look-ups and the two stackings agree -/

theorem lookup_eq_get (s : Store) (q : Path) : Store.lookup s q = s.get? q := by
  induction s with
  | nil => rfl
  | cons e s ih =>
    show (if e.1 == q then some e.2 else Store.lookup s q) = ((e :: s).find? _).map _
    rw [ih, List.find?_cons]
    cases e.1 == q <;> rfl

theorem stackEvents_eq_stackStores (iters : List Store) : stackEvents iters = stackStores iters := by
  cases iters with
  | nil => rfl
  | cons first rest => simp only [stackEvents, stackStores, lookup_eq_get, Store.get?]

/-! ### prefixing paths with enclosing namespaces -/

def pre (o : List String) (e : Event) : Event := (o ++ e.1, e.2)

@[simp] theorem pre_nil (e : Event) : pre [] e = e := rfl

theorem pre_append (o o' : List String) (e : Event) : pre (o ++ o') e = pre o (pre o' e) :=
  congrArg (·, e.2) (List.append_assoc o o' e.1)

theorem map_pre_nil (l : List Event) : l.map (pre []) = l := List.map_id'' pre_nil l

theorem isPrefix_append_left (o p q : Path) : isPrefix (o ++ p) (o ++ q) = isPrefix p q := by
  induction o with
  | nil => rfl
  | cons a o ih => exact (congrArg₂ and (beq_self_eq_true a) ih).trans (Bool.true_and _)

theorem beq_append_left (o p q : Path) : (o ++ p == o ++ q) = (p == q) := by
  rw [Bool.eq_iff_iff, beq_iff_eq, beq_iff_eq, List.append_right_inj]

theorem set_pre (o : List String) (s : Store) (p : Path) (v : SV) :
    Store.set (s.map (pre o)) (o ++ p) v = (Store.set s p v).map (pre o) := by
  rw [Store.set, Store.set, List.map_append, List.filter_map]
  exact congrArg (fun f => (s.filter f).map (pre o) ++ [(o ++ p, v)])
    (funext fun e => congrArg not (isPrefix_append_left o p e.1))

theorem applyEvents_pre (o : List String) (evs : List Event) (s : Store) :
    applyEvents (evs.map (pre o)) (s.map (pre o)) = (applyEvents evs s).map (pre o) := by
  induction evs generalizing s with
  | nil => rfl
  | cons e evs ih => exact (congrArg _ (set_pre o s e.1 e.2)).trans (ih _)

theorem collectEvents_pre (o : List String) (evs : List Event) :
    collectEvents (evs.map (pre o)) = (collectEvents evs).map (pre o) := applyEvents_pre o evs []

theorem lookup_pre (o : List String) (s : Store) (q : Path) :
    Store.lookup (s.map (pre o)) (o ++ q) = Store.lookup s q := by
  induction s with
  | nil => rfl
  | cons e s ih =>
    show (if o ++ e.1 == o ++ q then some e.2 else Store.lookup (s.map (pre o)) (o ++ q)) = 
      if e.1 == q then some e.2 else Store.lookup s q
    rw [ih, beq_append_left]

theorem stackEvents_pre (o : List String) (iters : List Store) :
    stackEvents (iters.map (List.map (pre o))) = (stackEvents iters).map (pre o) := by
  cases iters with
  | nil => rfl
  | cons first rest =>
    show (first.map (pre o)).map _ = (first.map _).map (pre o)
    rw [List.map_map, List.map_map]
    refine List.map_congr_left fun e _ => ?_
    show (o ++ e.1, SV.stack (((first :: rest).map (List.map (pre o))).map _)) = (o ++ e.1, SV.stack _)
    rw [List.map_map]
    exact congrArg (fun f => (o ++ e.1, SV.stack ((first :: rest).map f)))
      (funext fun s => congrArg (fun x => Option.getD x (SV.stack [])) (lookup_pre o s e.1))

/-! ### savers and runners -/

/-- what `SP.saves` and `SPL.saves` compute -/
abbrev Saver := List String → List String → List Nat → List Nat → Option (List Event × List String)

/-- what `SP.exec cfg` and `SPL.exec cfg` compute -/
abbrev Runner := List Nat → List Nat → St → Option St

/-- `SPL.saves` on a `cons` -/
def Saver.seq (f g : Saver) : Saver := fun outer ns idx lanes =>
  (f outer ns idx lanes).bind fun r1 => (g outer r1.2 idx lanes).bind fun r2 => some (r1.1 ++ r2.1, r2.2)

/-- `SP.saves` on a `scan` -/
def Saver.scan (g : Saver) (n : Nat) : Saver := fun outer ns idx lanes =>
  ((List.range n).mapM fun i => g (outer ++ ns) [] (idx ++ [i]) lanes).map fun rs =>
    (stackEvents (rs.map fun r => collectEvents r.1), ns)

theorem SP.saves_scan (body : SPL) (n : Nat) : (SP.scan body n).saves = Saver.scan body.saves n := by
  funext outer ns idx lanes
  show ((List.range n).mapM fun i => (body.saves (outer ++ ns) [] (idx ++ [i]) lanes).map _).bind _ = _
  rw [mapM_option_map, Saver.scan]
  cases (List.range n).mapM fun i => body.saves (outer ++ ns) [] (idx ++ [i]) lanes <;> rfl

/-- `SPL.exec` on a `cons` -/
def Runner.seq (e1 e2 : Runner) : Runner := fun idx lanes st => (e1 idx lanes st).bind (e2 idx lanes)

/-- `SP.exec` on a `scan`; each run starts from the empty interpreter state -/
def Runner.scan (cfg : Cfg) (e : Runner) (n : Nat) : Runner := fun idx lanes st =>
  ((List.range n).mapM fun i => e (idx ++ [i]) lanes ⟨[], []⟩).map fun sts =>
    mergeScan cfg st (stackStores (sts.map (·.store)))

theorem SP.exec_scan (cfg : Cfg) (body : SPL) (n : Nat) :
    (SP.scan body n).exec cfg = Runner.scan cfg (body.exec cfg) n := by
  funext idx lanes st
  show ((List.range n).mapM fun i => (body.exec cfg (idx ++ [i]) lanes ⟨[], []⟩).map _).bind _ = _
  rw [mapM_option_map, Runner.scan]
  cases (List.range n).mapM fun i => body.exec cfg (idx ++ [i]) lanes ⟨[], []⟩ <;> rfl

theorem SP.rec_both {m1 : SP → Prop} {m2 : SPL → Prop}
    (tag : ∀ name id, m1 (.tag name id)) (leafTag : ∀ id, m1 (.leafTag id))
    (push : ∀ a, m1 (.push a)) (pop : m1 .pop) (scan : ∀ body n, m2 body → m1 (.scan body n))
    (vmap : ∀ body n, m2 body → m1 (.vmap body n)) (other : m1 .other) (nil : m2 .nil)
    (cons : ∀ s rest, m1 s → m2 rest → m2 (.cons s rest)) : (∀ s, m1 s) ∧ (∀ p, m2 p) :=
  ⟨SP.rec tag leafTag push pop scan vmap other nil cons,
    SPL.rec tag leafTag push pop scan vmap other nil cons⟩

/-! ### the events under more enclosing namespaces are the same events with longer paths -/

def preR (o : List String) (r : List Event × List String) : List Event × List String :=
  (r.1.map (pre o), r.2)

theorem stackEvents_collect_preR (o : List String) (rs : List (List Event × List String)) :
    stackEvents ((rs.map (preR o)).map fun r => collectEvents r.1) =
      (stackEvents (rs.map fun r => collectEvents r.1)).map (pre o) := by
  rw [List.map_map, ← stackEvents_pre, List.map_map]
  exact congrArg (fun f => stackEvents (rs.map f)) (funext fun r => collectEvents_pre o r.1)

def SavesPre (f : Saver) : Prop :=
  ∀ (o outer ns : List String) (idx lanes : List Nat),
    f (o ++ outer) ns idx lanes = (f outer ns idx lanes).map (preR o)

theorem SavesPre.seq {f g : Saver} (hf : SavesPre f) (hg : SavesPre g) : SavesPre (f.seq g) := by
  intro o outer ns idx lanes
  rw [Saver.seq, Saver.seq, hf]
  cases f outer ns idx lanes with
  | none => rfl
  | some r1 =>
    show (g (o ++ outer) r1.2 idx lanes).bind _ = ((g outer r1.2 idx lanes).bind _).map _
    rw [hg]
    cases g outer r1.2 idx lanes with
    | none => rfl
    | some r2 => exact congrArg (fun l => some (l, r2.2)) List.map_append.symm

theorem SavesPre.scan {g : Saver} (hg : SavesPre g) (n : Nat) : SavesPre (g.scan n) := by
  intro o outer ns idx lanes
  rw [Saver.scan, Saver.scan, List.append_assoc, funext fun i => hg o (outer ++ ns) [] (idx ++ [i]) lanes,
    mapM_option_map, Option.map_map, Option.map_map]
  refine congrArg (Option.map · _) (funext fun rs => ?_)
  exact congrArg (·, ns) (stackEvents_collect_preR o rs)

theorem saves_pre_both : (∀ s : SP, SavesPre s.saves) ∧ (∀ p : SPL, SavesPre p.saves) :=
  SP.rec_both (m1 := fun s => SavesPre s.saves) (m2 := fun p => SavesPre p.saves)
    (tag := fun name id o outer ns idx lanes => by
      show some ([(o ++ outer ++ ns ++ [name], _)], ns) = some ([(o ++ (outer ++ ns ++ [name]), _)], ns)
      rw [List.append_assoc, List.append_assoc, List.append_assoc])
    (leafTag := fun id o outer ns idx lanes => by
      cases ns with
      | nil => rfl
      | cons a t => exact congrArg (fun p => some ([(p, batched id idx lanes)], a :: t)) (List.append_assoc ..))
    (push := fun _ _ _ _ _ _ => rfl)
    (pop := fun _ _ ns _ _ => by cases ns <;> rfl)
    (scan := fun body n ih => SP.saves_scan body n ▸ ih.scan n)
    (vmap := fun _ n ih o outer ns idx lanes => ih o outer ns idx (lanes ++ [n]))
    (other := fun _ _ _ _ _ => rfl)
    (nil := fun _ _ _ _ _ => rfl)
    (cons := fun _ _ hs hr => hs.seq hr)

theorem SP.saves_pre : (s : SP) → ∀ (o outer ns : List String) (idx lanes : List Nat),
      s.saves (o ++ outer) ns idx lanes = (s.saves outer ns idx lanes).map (preR o) :=
  saves_pre_both.1

/-! ### refinement -/

def afterEvents (st : St) (r : List Event × List String) : St :=
  { store := applyEvents r.1 st.store, ns := r.2 }

theorem mergeScan_true (st : St) (stacked : Store) :
    mergeScan ⟨true⟩ st stacked = afterEvents st (stacked.map (pre st.ns), st.ns) :=
  congrArg (fun s => (⟨s, st.ns⟩ : St))
    (List.foldl_map (f := pre st.ns) (g := fun s e => Store.set s e.1 e.2)).symm

/-- an interpreter (at `nsAcrossScan = true`) does "replay the events of the saver, later write wins" -/
def Refines (ex : Runner) (sv : Saver) : Prop :=
  ∀ (idx lanes : List Nat) (st : St), ex idx lanes st = (sv [] st.ns idx lanes).map (afterEvents st)

theorem Refines.seq {e1 e2 : Runner} {s1 s2 : Saver}
    (h1 : Refines e1 s1) (h2 : Refines e2 s2) :
    Refines (e1.seq e2) (s1.seq s2) := by
  intro idx lanes st
  show (e1 idx lanes st).bind _ = ((s1 [] st.ns idx lanes).bind _).map _
  rw [h1]
  cases s1 [] st.ns idx lanes with
  | none => rfl
  | some r1 =>
    refine (h2 idx lanes (afterEvents st r1)).trans ?_
    show (s2 [] r1.2 idx lanes).map _ = ((s2 [] r1.2 idx lanes).bind _).map _
    cases s2 [] r1.2 idx lanes with
    | none => rfl
    | some r2 => exact congrArg (fun s => some (⟨s, r2.2⟩ : St)) (applyEvents_append ..).symm

theorem Refines.scan {e : Runner} {g : Saver} (h : Refines e g) (hg : SavesPre g) (n : Nat) :
    Refines (Runner.scan ⟨true⟩ e n) (g.scan n) := by
  intro idx lanes st
  have hpre : ∀ i, g st.ns [] (idx ++ [i]) lanes = (g [] [] (idx ++ [i]) lanes).map (preR st.ns) :=
    fun i => by have := hg st.ns [] [] (idx ++ [i]) lanes; rwa [List.append_nil] at this
  show Option.map _ ((List.range n).mapM _) = _
  rw [Saver.scan, List.nil_append, funext hpre, funext fun i => h (idx ++ [i]) lanes ⟨[], []⟩,
    mapM_option_map, mapM_option_map, Option.map_map, Option.map_map, Option.map_map]
  refine congrArg (Option.map · _) (funext fun rs => ?_)
  show mergeScan ⟨true⟩ st (stackStores ((rs.map _).map _)) = afterEvents st (stackEvents ((rs.map _).map _), st.ns)
  rw [mergeScan_true, ← stackEvents_eq_stackStores, stackEvents_collect_preR, List.map_map]
  rfl

theorem exec_spec_both : (∀ s : SP, Refines (s.exec ⟨true⟩) s.saves) ∧
    (∀ p : SPL, Refines (p.exec ⟨true⟩) p.saves) :=
  SP.rec_both (m1 := fun s => Refines (s.exec ⟨true⟩) s.saves)
    (m2 := fun p => Refines (p.exec ⟨true⟩) p.saves)
    (tag := fun _ _ _ _ _ => rfl)
    (leafTag := fun _ _ _ ⟨_, ns⟩ => by cases ns <;> rfl)
    (push := fun _ _ _ _ => rfl)
    (pop := fun _ _ ⟨_, ns⟩ => by cases ns <;> rfl)
    (scan := fun body n ih => SP.exec_scan ⟨true⟩ body n ▸ SP.saves_scan body n ▸ ih.scan (saves_pre_both.2 body) n)
    (vmap := fun _ n ih idx lanes st => ih idx (lanes ++ [n]) st)
    (other := fun _ _ _ => rfl)
    (nil := fun _ _ _ => rfl)
    (cons := fun _ _ hs hr => hs.seq hr)

theorem SP.exec_spec : (s : SP) → ∀ (idx lanes : List Nat) (st : St),
      s.exec ⟨true⟩ idx lanes st = (s.saves [] st.ns idx lanes).map (afterEvents st) :=
  exec_spec_both.1

/-! ### what the collected dictionary contains, path by path -/

/-- the value a dictionary holds at `q` after the events `evs`, read off the event list alone:
    the last save at exactly `q`, unless a later save at a path above `q` (a leaf-mode save into an
    enclosing namespace) replaced the whole sub-dictionary -/
def lastSaveFrom (init : Option SV) (evs : List Event) (q : Path) : Option SV :=
  evs.foldl (fun acc e => if e.1 == q then some e.2 else if isPrefix e.1 q then none else acc) init

def lastSave (evs : List Event) (q : Path) : Option SV := lastSaveFrom none evs q

theorem get_applyEvents (evs : List Event) (s : Store) (q : Path) :
    (applyEvents evs s).get? q = lastSaveFrom (s.get? q) evs q := by
  induction evs generalizing s with
  | nil => rfl
  | cons e evs ih => exact (ih _).trans (congrArg (lastSaveFrom · evs q) (get_set s e.1 q e.2))

theorem get_collectEvents (evs : List Event) (q : Path) :
    (collectEvents evs).get? q = lastSave evs q := get_applyEvents evs [] q

theorem lastSaveFrom_of_no_prefix (init : Option SV) (post : List Event) (q : Path)
    (h : ∀ e ∈ post, isPrefix e.1 q = false) : lastSaveFrom init post q = init := by
  induction post generalizing init with
  | nil => rfl
  | cons e post ih =>
    have he : isPrefix e.1 q = false := h e List.mem_cons_self
    refine Eq.trans ?_ (ih init fun e' he' => h e' (List.mem_cons_of_mem _ he'))
    show lastSaveFrom (if e.1 == q then some e.2 else if isPrefix e.1 q then none else init) post q = _
    rw [beq_false_of_isPrefix_false he, he]; rfl

theorem lastSave_split (pre post : List Event) (q : Path) (v : SV)
    (h : ∀ e ∈ post, isPrefix e.1 q = false) : lastSave (pre ++ (q, v) :: post) q = some v := by
  rw [lastSave, lastSaveFrom, List.foldl_append, List.foldl_cons, beq_self_eq_true]
  exact lastSaveFrom_of_no_prefix (some v) post q h

theorem mem_applyEvents (evs : List Event) (s : Store) (e : Event) (h : e ∈ applyEvents evs s) :
    e ∈ s ∨ e ∈ evs := by
  induction evs generalizing s with
  | nil => exact Or.inl h
  | cons e' evs ih =>
    rcases ih _ h with h1 | h1
    · rcases List.mem_append.mp h1 with h1 | h1
      · exact Or.inl (List.mem_filter.mp h1).1
      · exact Or.inr (List.mem_singleton.mp h1 ▸ List.mem_cons_self)
    · exact Or.inr (List.mem_cons_of_mem _ h1)

theorem mem_collectEvents (evs : List Event) (e : Event) (h : e ∈ collectEvents evs) : e ∈ evs :=
  (mem_applyEvents evs [] e h).resolve_left List.not_mem_nil

end Genjax.State

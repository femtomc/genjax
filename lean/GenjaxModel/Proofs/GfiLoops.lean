import GenjaxModel.Model.Gfi
import Batteries.Data.List.Basic
/-!
  The two loop combinators of the GFI model, `forLanes` (Vmap: one call per lane, index passed)
  and `forSteps` (Scan: one call per step, carry threaded), characterised once: what a successful
  run looks like, an induction principle over successful runs, and the pointwise consequences
  (length, membership, indexing) every per-operation proof needs.
-/
namespace Genjax
variable {α β γ : Type}

/-! ### `forLanes` -/

@[simp] theorem forLanes_nil (f : Nat → α → Option β) (i : Nat) : forLanes f i [] = some [] := rfl

theorem forLanes_cons {f : Nat → α → Option β} {i : Nat} {a : α} {as : List α} {bs : List β} :
    forLanes f i (a :: as) = some bs ↔
      ∃ b bs', f i a = some b ∧ forLanes f (i + 1) as = some bs' ∧ bs = b :: bs' := by
  constructor
  · intro h
    obtain ⟨b, hb, h⟩ := Option.bind_eq_some_iff.mp h
    obtain ⟨bs', hbs', e⟩ := Option.bind_eq_some_iff.mp h
    exact ⟨b, bs', hb, hbs', (Option.some.inj e).symm⟩
  · rintro ⟨b, bs', hb, hbs', rfl⟩
    exact Option.bind_eq_some_iff.mpr ⟨b, hb, Option.bind_eq_some_iff.mpr ⟨bs', hbs', rfl⟩⟩

theorem forLanes_induction {f : Nat → α → Option β} {motive : Nat → List α → List β → Prop}
    (nil : ∀ i, motive i [] [])
    (cons : ∀ i a as b bs, f i a = some b → forLanes f (i + 1) as = some bs →
      motive (i + 1) as bs → motive i (a :: as) (b :: bs)) :
    ∀ {l : List α} {i : Nat} {bs : List β}, forLanes f i l = some bs → motive i l bs := by
  intro l
  induction l with
  | nil => intro i bs h; cases h; exact nil i
  | cons a as ih =>
    intro i bs h
    obtain ⟨b, bs', hb, hbs', rfl⟩ := forLanes_cons.mp h
    exact cons i a as b bs' hb hbs' (ih hbs')

theorem forLanes_length {f : Nat → α → Option β} {l : List α} {i : Nat} {bs : List β}
    (h : forLanes f i l = some bs) : bs.length = l.length := by
  refine forLanes_induction (f := f) (motive := fun _ l bs => bs.length = l.length) (fun _ => rfl) ?_ h
  intro _ _ _ _ _ _ _ ih
  rw [List.length_cons, List.length_cons, ih]

theorem forLanes_forall {f : Nat → α → Option β} {Q : β → Prop}
    (hf : ∀ i a b, f i a = some b → Q b) {l : List α} {i : Nat} {bs : List β}
    (h : forLanes f i l = some bs) : ∀ b ∈ bs, Q b :=
  forLanes_induction (motive := fun _ _ bs => ∀ b ∈ bs, Q b) (fun _ _ h => nomatch h)
    (fun i a _ b _ hb _ ih => List.forall_mem_cons.mpr ⟨hf i a b hb, ih⟩) h

theorem forLanes_forall₂ {f : Nat → α → Option β} {r : α → β → Prop}
    (hf : ∀ i a b, f i a = some b → r a b) {l : List α} {i : Nat} {bs : List β}
    (h : forLanes f i l = some bs) : List.Forall₂ r l bs :=
  forLanes_induction (motive := fun _ l bs => List.Forall₂ r l bs) (fun _ => .nil)
    (fun i a _ b _ hb _ ih => .cons (hf i a b hb) ih) h

theorem forLanes_get {f : Nat → α → Option β} {l : List α} {i : Nat} {bs : List β}
    (h : forLanes f i l = some bs) :
    ∀ j a, l[j]? = some a → ∃ b, bs[j]? = some b ∧ f (i + j) a = some b := by
  refine forLanes_induction
    (motive := fun i l bs => ∀ j a, l[j]? = some a → ∃ b, bs[j]? = some b ∧ f (i + j) a = some b)
    (fun _ j a ha => by simp at ha) ?_ h
  intro i a0 as b bs hb _ ih j a ha
  cases j with
  | zero => cases ha; exact ⟨b, rfl, hb⟩
  | succ j =>
    obtain ⟨b', hb', hf⟩ := ih j a ha
    exact ⟨b', hb', by rwa [Nat.add_right_comm] at hf⟩

theorem forLanes_isSome {f : Nat → α → Option β} :
    ∀ {l : List α}, (∀ i, ∀ x ∈ l, (f i x).isSome) → ∀ i, (forLanes f i l).isSome := by
  intro l
  induction l with
  | nil => exact fun _ _ => rfl
  | cons a as ih =>
    intro h i
    obtain ⟨b, hb⟩ := Option.isSome_iff_exists.mp (h i a List.mem_cons_self)
    obtain ⟨bs, hbs⟩ := Option.isSome_iff_exists.mp
      (ih (fun j x hx => h j x (List.mem_cons_of_mem _ hx)) (i + 1))
    exact Option.isSome_iff_exists.mpr ⟨_, forLanes_cons.mpr ⟨b, bs, hb, hbs, rfl⟩⟩

theorem forLanes_map (f : Nat → α → Option β) (m : β → γ) :
    ∀ (l : List α) (i : Nat),
      forLanes (fun i a => (f i a).map m) i l = (forLanes f i l).map (List.map m)
  | [], _ => rfl
  | a :: as, i => by
      simp only [forLanes, Option.bind_eq_bind]
      cases f i a with
      | none => rfl
      | some b =>
        simp only [Option.map_some, Option.bind_some, forLanes_map f m as (i + 1)]
        cases forLanes f (i + 1) as <;> rfl

theorem forLanes_some_map {f : Nat → α → Option β} {f' : Nat → α → Option γ} {m : β → γ}
    (hf : ∀ i a b, f i a = some b → f' i a = some (m b)) {l : List α} {i : Nat} {bs : List β}
    (h : forLanes f i l = some bs) : forLanes f' i l = some (bs.map m) :=
  forLanes_induction (motive := fun i l bs => forLanes f' i l = some (bs.map m)) (fun _ => rfl)
    (fun i a _ b _ hb _ ih => forLanes_cons.mpr ⟨_, _, hf i a b hb, ih, rfl⟩) h

theorem forLanes_rel_some {r : α → α → Prop} {f : Nat → α → Option β}
    (hf : ∀ i x y b, r x y → f i x = some b → f i y = some b) {xs ys : List α}
    (hxy : List.Forall₂ r xs ys) {i : Nat} {bs : List β} (h : forLanes f i xs = some bs) :
    forLanes f i ys = some bs := by
  induction hxy generalizing i bs with
  | nil => exact h
  | cons hab _ ih =>
    obtain ⟨b, bs', hb, hbs', rfl⟩ := forLanes_cons.mp h
    exact forLanes_cons.mpr ⟨b, bs', hf _ _ _ _ hab hb, ih hbs', rfl⟩

theorem forLanes_rel_defined {r : α → α → Prop} {f f' : Nat → α → Option β}
    (hf : ∀ i x y, r x y → (∃ b, f i x = some b) → ∃ b, f' i y = some b) {xs ys : List α}
    (hxy : List.Forall₂ r xs ys) {i : Nat} (h : ∃ bs, forLanes f i xs = some bs) :
    ∃ bs, forLanes f' i ys = some bs := by
  induction hxy generalizing i with
  | nil => exact ⟨[], rfl⟩
  | cons hab _ ih =>
    obtain ⟨_, h⟩ := h
    obtain ⟨b, bs', hb, hbs', rfl⟩ := forLanes_cons.mp h
    obtain ⟨b2, hb2⟩ := hf _ _ _ hab ⟨b, hb⟩
    obtain ⟨bs2, hbs2⟩ := ih ⟨bs', hbs'⟩
    exact ⟨_, forLanes_cons.mpr ⟨b2, bs2, hb2, hbs2, rfl⟩⟩

/-! ### `forSteps` -/

@[simp] theorem forSteps_nil (f : Val → Nat → α → Option (β × Val)) (c : Val) (i : Nat) :
    forSteps f c i [] = some ([], c) := rfl

theorem forSteps_cons {f : Val → Nat → α → Option (β × Val)} {c : Val} {i : Nat} {a : α}
    {as : List α} {res : List β × Val} :
    forSteps f c i (a :: as) = some res ↔
      ∃ b c1 bs', f c i a = some (b, c1) ∧ forSteps f c1 (i + 1) as = some (bs', res.2) ∧
        res.1 = b :: bs' := by
  constructor
  · intro h
    obtain ⟨⟨b, c1⟩, hb, h⟩ := Option.bind_eq_some_iff.mp h
    obtain ⟨⟨bs', c2⟩, hbs', e⟩ := Option.bind_eq_some_iff.mp h
    cases e
    exact ⟨b, c1, bs', hb, hbs', rfl⟩
  · obtain ⟨bs, c'⟩ := res
    rintro ⟨b, c1, bs', hb, hbs', rfl⟩
    exact Option.bind_eq_some_iff.mpr ⟨_, hb, Option.bind_eq_some_iff.mpr ⟨_, hbs', rfl⟩⟩

/-- the motive's first argument is the carry entering the remaining steps -/
theorem forSteps_induction {f : Val → Nat → α → Option (β × Val)}
    {motive : Val → Nat → List α → List β → Val → Prop}
    (nil : ∀ c i, motive c i [] [] c)
    (cons : ∀ c i a as b c1 bs c', f c i a = some (b, c1) → forSteps f c1 (i + 1) as = some (bs, c') →
      motive c1 (i + 1) as bs c' → motive c i (a :: as) (b :: bs) c') :
    ∀ {l : List α} {c : Val} {i : Nat} {bs : List β} {c' : Val},
      forSteps f c i l = some (bs, c') → motive c i l bs c' := by
  intro l
  induction l with
  | nil => intro c i bs c' h; cases h; exact nil c i
  | cons a as ih =>
    intro c i bs c' h
    obtain ⟨b, c1, bs', hb, hbs', rfl⟩ := forSteps_cons.mp h
    exact cons c i a as b c1 bs' c' hb hbs' (ih hbs')

theorem forSteps_length {f : Val → Nat → α → Option (β × Val)} {l : List α} {c : Val} {i : Nat}
    {bs : List β} {c' : Val} (h : forSteps f c i l = some (bs, c')) : bs.length = l.length := by
  refine forSteps_induction (f := f) (motive := fun _ _ l bs _ => bs.length = l.length) (fun _ _ => rfl) ?_ h
  intro _ _ _ _ _ _ _ _ _ _ ih
  rw [List.length_cons, List.length_cons, ih]

theorem forSteps_forall {f : Val → Nat → α → Option (β × Val)} {Q : β → Prop}
    (hf : ∀ c i a b c', f c i a = some (b, c') → Q b) {l : List α} {c : Val} {i : Nat}
    {bs : List β} {c' : Val} (h : forSteps f c i l = some (bs, c')) : ∀ b ∈ bs, Q b :=
  forSteps_induction (motive := fun _ _ _ bs _ => ∀ b ∈ bs, Q b) (fun _ _ _ h => nomatch h)
    (fun c i a _ b c1 _ _ hb _ ih => List.forall_mem_cons.mpr ⟨hf c i a b c1 hb, ih⟩) h

theorem forSteps_forall₂ {f : Val → Nat → α → Option (β × Val)} {r : α → β → Prop}
    (hf : ∀ c i a b c', f c i a = some (b, c') → r a b) {l : List α} {c : Val} {i : Nat}
    {bs : List β} {c' : Val} (h : forSteps f c i l = some (bs, c')) : List.Forall₂ r l bs :=
  forSteps_induction (motive := fun _ _ l bs _ => List.Forall₂ r l bs) (fun _ _ => .nil)
    (fun c i a _ b c1 _ _ hb _ ih => .cons (hf c i a b c1 hb) ih) h

/-- the carry entering step `j`, computed from the per-step results `bs` (`nxt` = the carry a step
    hands on) -/
def carryG (nxt : β → Val) (c : Val) : List β → Nat → Val
  | _, 0 => c
  | [], _ + 1 => c
  | b :: bs, j + 1 => carryG nxt (nxt b) bs j

theorem forSteps_get_carry {f : Val → Nat → α → Option (β × Val)} {nxt : β → Val}
    (hf : ∀ c i a b c', f c i a = some (b, c') → c' = nxt b) {l : List α} {c : Val} {i : Nat}
    {bs : List β} {c' : Val} (h : forSteps f c i l = some (bs, c')) :
    ∀ j a, l[j]? = some a →
      ∃ b cj', bs[j]? = some b ∧ f (carryG nxt c bs j) (i + j) a = some (b, cj') := by
  refine forSteps_induction
    (motive := fun c i l bs _ => ∀ j a, l[j]? = some a →
      ∃ b cj', bs[j]? = some b ∧ f (carryG nxt c bs j) (i + j) a = some (b, cj'))
    (fun _ _ j a ha => by simp at ha) ?_ h
  intro c i a0 as b c1 bs c' hb _ ih j a ha
  cases j with
  | zero => cases ha; exact ⟨b, c1, rfl, hb⟩
  | succ j =>
    obtain ⟨b', cj', hb', hf'⟩ := ih j a ha
    refine ⟨b', cj', hb', ?_⟩
    rw [Nat.add_right_comm, hf c i a0 b c1 hb] at hf'
    exact hf'

theorem forSteps_get_carry_out {f : Val → Nat → α → Option (β × Val)} {nxt : β → Val}
    (hf : ∀ c i a b c', f c i a = some (b, c') → c' = nxt b) {l : List α} {c : Val} {i : Nat}
    {bs : List β} {c' : Val} (h : forSteps f c i l = some (bs, c')) {j : Nat} {b : β}
    (hb : bs[j]? = some b) :
    ∃ a cj', l[j]? = some a ∧ f (carryG nxt c bs j) (i + j) a = some (b, cj') := by
  have hj : j < l.length := forSteps_length h ▸ (List.getElem?_eq_some_iff.mp hb).1
  obtain ⟨b', cj', hb', hf'⟩ := forSteps_get_carry hf h j l[j] (List.getElem?_eq_getElem hj)
  exact ⟨l[j], cj', List.getElem?_eq_getElem hj, by rwa [Option.some.inj (hb.symm.trans hb')]⟩

theorem forSteps_isSome {f : Val → Nat → α → Option (β × Val)} :
    ∀ {l : List α}, (∀ c i, ∀ x ∈ l, (f c i x).isSome) → ∀ c i, (forSteps f c i l).isSome := by
  intro l
  induction l with
  | nil => exact fun _ _ _ => rfl
  | cons a as ih =>
    intro h c i
    obtain ⟨⟨b, c1⟩, hb⟩ := Option.isSome_iff_exists.mp (h c i a List.mem_cons_self)
    obtain ⟨⟨bs, c2⟩, hbs⟩ := Option.isSome_iff_exists.mp
      (ih (fun c j x hx => h c j x (List.mem_cons_of_mem _ hx)) c1 (i + 1))
    exact Option.isSome_iff_exists.mpr ⟨(b :: bs, c2), forSteps_cons.mpr ⟨b, c1, bs, hb, hbs, rfl⟩⟩

theorem forSteps_map (f : Val → Nat → α → Option (β × Val)) (m : β → γ) :
    ∀ (l : List α) (c : Val) (i : Nat),
      forSteps (fun c i a => (f c i a).map fun p => (m p.1, p.2)) c i l
        = (forSteps f c i l).map fun q => (q.1.map m, q.2)
  | [], _, _ => rfl
  | a :: as, c, i => by
      simp only [forSteps, Option.bind_eq_bind]
      cases f c i a with
      | none => rfl
      | some p =>
        simp only [Option.map_some, Option.bind_some, forSteps_map f m as p.2 (i + 1)]
        cases forSteps f p.2 (i + 1) as <;> rfl

theorem forSteps_some_map {f : Val → Nat → α → Option (β × Val)} {f' : Val → Nat → α → Option (γ × Val)}
    {m : β → γ} (hf : ∀ c i a b c', f c i a = some (b, c') → f' c i a = some (m b, c'))
    {l : List α} {c : Val} {i : Nat} {bs : List β} {c' : Val} (h : forSteps f c i l = some (bs, c')) :
    forSteps f' c i l = some (bs.map m, c') :=
  forSteps_induction (motive := fun c i l bs c' => forSteps f' c i l = some (bs.map m, c'))
    (fun _ _ => rfl)
    (fun c i a _ b c1 _ _ hb _ ih => forSteps_cons.mpr ⟨_, _, _, hf c i a b c1 hb, ih, rfl⟩) h

theorem forSteps_rel_some {r : α → α → Prop} {f : Val → Nat → α → Option (β × Val)}
    (hf : ∀ c i x y b, r x y → f c i x = some b → f c i y = some b) {xs ys : List α}
    (hxy : List.Forall₂ r xs ys) {c : Val} {i : Nat} {res : List β × Val}
    (h : forSteps f c i xs = some res) : forSteps f c i ys = some res := by
  induction hxy generalizing c i res with
  | nil => exact h
  | cons hab _ ih =>
    obtain ⟨b, c1, bs', hb, hbs', e⟩ := forSteps_cons.mp h
    exact forSteps_cons.mpr ⟨b, c1, bs', hf _ _ _ _ _ hab hb, ih hbs', e⟩

theorem forSteps_rel_defined {r : α → α → Prop} {f f' : Val → Nat → α → Option (β × Val)}
    (hf : ∀ c c' i x y, r x y → (∃ b, f c i x = some b) → ∃ b, f' c' i y = some b)
    {xs ys : List α} (hxy : List.Forall₂ r xs ys) {c c' : Val} {i : Nat}
    (h : ∃ res, forSteps f c i xs = some res) : ∃ res, forSteps f' c' i ys = some res := by
  induction hxy generalizing c c' i with
  | nil => exact ⟨_, rfl⟩
  | cons hab _ ih =>
    obtain ⟨_, h⟩ := h
    obtain ⟨b, c1, bs', hb, hbs', _⟩ := forSteps_cons.mp h
    obtain ⟨⟨b2, d1⟩, hb2⟩ := hf _ c' _ _ _ hab ⟨_, hb⟩
    obtain ⟨⟨bs2, d2⟩, hbs2⟩ := ih (c' := d1) ⟨_, hbs'⟩
    exact ⟨(b2 :: bs2, d2), forSteps_cons.mpr ⟨b2, d1, bs2, hb2, hbs2, rfl⟩⟩

end Genjax

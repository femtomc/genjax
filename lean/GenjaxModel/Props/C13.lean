import GenjaxModel.Proofs.DistSpec
import GenjaxModel.Proofs.DistSpec2
import GenjaxModel.Proofs.DistSpec3
import GenjaxModel.Proofs.DistSpec4
import GenjaxModel.Proofs.DistSpec5
import GenjaxModel.Proofs.DistExpr
import GenjaxModel.Proofs.DistExprVec
/-!
# C13 — distributions: documented parameters, normalised density, matching sampler

Partial: the DENSITY side (documented closed form, total mass one on the documented parameter
domain) is formalised for all 24 exported distributions, with parameter-pinning lemmas and — for the
15 distributions of `Proofs/DistSpec2.lean` … `DistSpec5.lean` — non-negativity (`C13_<name>_nonneg`);
the agreement of `logpdf` with the documented formula and of the sampler with that density is NOT
a Lean theorem — it is established by the correspondence run only (closed forms / scipy, KS and
chi-square at α = 1e-6): sampler ↔ density is statistical support; TFP is trusted.

The Proofs files state the DOCUMENTED parameterisation of each built-in distribution as a
real-valued mass / density function (parameters in the documented order) and prove that it
normalises to 1 over its support for every parameter value in the documented domain, together with
lemmas that pin the parameterisation (rate vs scale, covariance vs scale, which outcome is counted,
special cases) and, in `DistSpec2.lean` … `DistSpec5.lean`, non-negativity (so the `ENNReal.ofReal`
in those statements clips nothing).

Formalised (closed form + total mass one), by file:
* `Proofs/DistSpec.lean`  — flip(p), bernoulli(logits), categorical(logits), geometric(probs)
  [failures before the first success], poisson(rate), binomial(total_count, probs),
  exponential(rate), uniform(low, high), normal(loc, scale).
* `Proofs/DistSpec2.lean` — gamma(concentration, rate), chi2(df), beta(concentration1,
  concentration0), cauchy(loc, scale), laplace(loc, scale), log_normal(loc, scale),
  half_normal(scale), inverse_gamma(concentration, scale), weibull(concentration, scale),
  student_t(df, loc, scale).
* `Proofs/DistSpec3.lean` — negative_binomial(total_count r > 0 real, probs) [successes before the
  r-th failure], multinomial(total_count, probs), zipf(power).
* `Proofs/DistSpec4.lean` — multivariate_normal(loc, covariance_matrix): any dimension, any
  positive definite covariance.
* `Proofs/DistSpec5.lean` — dirichlet(concentration): any number of components.
Not formalised as densities: none of the 24.  (bernoulli / geometric / binomial / multinomial /
negative_binomial are formalised for ONE of their alternative parameterisations — the one listed.)
-/
namespace Genjax.DistSpec
open MeasureTheory

/-! ## The nine distributions of Proofs/DistSpec.lean -/

theorem C13_flip_normalised (p : ℝ) : flipPmf p true + flipPmf p false = 1 := flip_normalised p

theorem C13_bernoulli_logits_normalised (l : ℝ) :
    bernoulliLogitsPmf l true + bernoulliLogitsPmf l false = 1 := bernoulliLogits_normalised l

/-- the logits parameterisation: odds P(1)/P(0) = e^l -/
theorem C13_bernoulli_logits_odds (l : ℝ) :
    bernoulliLogitsPmf l true = Real.exp l * bernoulliLogitsPmf l false := bernoulliLogits_odds l

theorem C13_categorical_normalised {n : ℕ} (θ : Fin n → ℝ) (hn : 0 < n) :
    ∑ k, categoricalPmf θ k = 1 := categorical_normalised θ hn

/-- the mass function `(1−p)^k p` of geometric (`k` failures before the first success) sums to one -/
theorem C13_geometric_normalised (p : ℝ) (hp0 : 0 < p) (hp1 : p ≤ 1) :
    HasSum (geometricPmf p) 1 := geometric_normalised p hp0 hp1

theorem C13_poisson_normalised (r : ℝ) : HasSum (poissonPmf r) 1 := poisson_normalised r

theorem C13_binomial_normalised (n : ℕ) (p : ℝ) :
    ∑ k ∈ Finset.range (n + 1), binomialPmf n p k = 1 := binomial_normalised n p

/-- the density `r e^{−r x}` of exponential (`r` a rate) has total mass one -/
theorem C13_exponential_normalised (r : ℝ) (hr : 0 < r) :
    ∫⁻ x, ENNReal.ofReal (exponentialPdf r x) = 1 := exponential_normalised r hr

theorem C13_uniform_normalised (a b : ℝ) (hab : a < b) :
    ∫⁻ x, ENNReal.ofReal (uniformPdf a b x) = 1 := uniform_normalised a b hab

theorem C13_normal_normalised (μ σ : ℝ) (hσ : 0 < σ) :
    ∫⁻ x, ENNReal.ofReal (normalPdf μ σ x) = 1 := normal_normalised μ σ hσ

/-- normal takes a standard deviation (scale), not a variance -/
theorem C13_normal_param_loc_scale (μ σ x : ℝ) (hσ : 0 < σ) :
    normalPdf μ σ x = 1 / σ * normalPdf 0 1 ((x - μ) / σ) := normal_loc_scale μ σ x hσ

/-! ## Continuous distributions reduced to gamma, beta, cauchy, normal (Proofs/DistSpec2.lean) -/

/-- gamma(concentration α, rate β): β^α/Γ(α) x^{α−1} e^{−βx} on x > 0 has total mass one -/
theorem C13_gamma_normalised (a r : ℝ) (ha : 0 < a) (hr : 0 < r) :
    ∫⁻ x, ENNReal.ofReal (gammaPdf a r x) = 1 := gamma_normalised a r ha hr
example : ∫⁻ x, ENNReal.ofReal (gammaPdf 2 (3 / 2) x) = 1 :=
  C13_gamma_normalised 2 (3 / 2) (by norm_num) (by norm_num)

/-- the second gamma parameter is a RATE: X ~ gamma(α, β) iff βX ~ gamma(α, 1) -/
theorem C13_gamma_param_rate (a r x : ℝ) (hr : 0 < r) :
    gammaPdf a r x = r * gammaPdf a 1 (r * x) := gamma_rate_scaling a r x hr

theorem C13_gamma_nonneg (a r x : ℝ) (ha : 0 < a) (hr : 0 < r) : 0 ≤ gammaPdf a r x :=
  gammaPdf_nonneg a r x ha hr

/-- chi2(df k): 1/(2^{k/2} Γ(k/2)) x^{k/2−1} e^{−x/2} on x > 0 has total mass one -/
theorem C13_chi2_normalised (k : ℝ) (hk : 0 < k) :
    ∫⁻ x, ENNReal.ofReal (chi2Pdf k x) = 1 := chi2_normalised k hk
example : ∫⁻ x, ENNReal.ofReal (chi2Pdf 3 x) = 1 := C13_chi2_normalised 3 (by norm_num)

/-- chi2(k) = gamma(k/2, rate 1/2) -/
theorem C13_chi2_param_gamma (k x : ℝ) : chi2Pdf k x = gammaPdf (k / 2) (1 / 2) x :=
  chi2_eq_gamma k x

theorem C13_chi2_nonneg (k x : ℝ) (hk : 0 < k) : 0 ≤ chi2Pdf k x := chi2Pdf_nonneg k x hk

/-- beta(concentration1 α, concentration0 β): Γ(α+β)/(Γ(α)Γ(β)) x^{α−1}(1−x)^{β−1} on (0,1) -/
theorem C13_beta_normalised (a b : ℝ) (ha : 0 < a) (hb : 0 < b) :
    ∫⁻ x, ENNReal.ofReal (betaPdf a b x) = 1 := beta_normalised a b ha hb
example : ∫⁻ x, ENNReal.ofReal (betaPdf (7 / 10) 2 x) = 1 :=
  C13_beta_normalised (7 / 10) 2 (by norm_num) (by norm_num)

/-- the first parameter (concentration1) belongs to `x`, the second (concentration0) to `1 − x` -/
theorem C13_beta_param_swap (a b x : ℝ) : betaPdf a b x = betaPdf b a (1 - x) := beta_swap a b x

theorem C13_beta_nonneg (a b x : ℝ) (ha : 0 < a) (hb : 0 < b) : 0 ≤ betaPdf a b x :=
  betaPdf_nonneg a b x ha hb

/-- cauchy(loc x₀, scale γ): 1/(πγ(1+((x−x₀)/γ)²)) -/
theorem C13_cauchy_normalised (x₀ γ : ℝ) (hγ : 0 < γ) :
    ∫⁻ x, ENNReal.ofReal (cauchyPdf x₀ γ x) = 1 := cauchy_normalised x₀ γ hγ
example : ∫⁻ x, ENNReal.ofReal (cauchyPdf (3 / 10) (4 / 5) x) = 1 :=
  C13_cauchy_normalised _ _ (by norm_num)

theorem C13_cauchy_param_loc_scale (x₀ γ x : ℝ) :
    cauchyPdf x₀ γ x = 1 / γ * cauchyPdf 0 1 ((x - x₀) / γ) := cauchy_loc_scale x₀ γ x

theorem C13_cauchy_nonneg (x₀ γ x : ℝ) (hγ : 0 < γ) : 0 ≤ cauchyPdf x₀ γ x :=
  cauchyPdf_nonneg x₀ γ x hγ

/-- laplace(loc μ, scale b): 1/(2b) e^{−|x−μ|/b} -/
theorem C13_laplace_normalised (μ b : ℝ) (hb : 0 < b) :
    ∫⁻ x, ENNReal.ofReal (laplacePdf μ b x) = 1 := laplace_normalised μ b hb
example : ∫⁻ x, ENNReal.ofReal (laplacePdf (1 / 2) (6 / 5) x) = 1 :=
  C13_laplace_normalised _ _ (by norm_num)

/-- laplace takes a scale (not a rate) -/
theorem C13_laplace_param_loc_scale (μ b x : ℝ) (hb : 0 < b) :
    laplacePdf μ b x = 1 / b * laplacePdf 0 1 ((x - μ) / b) := laplace_loc_scale μ b x hb

theorem C13_laplace_nonneg (μ b x : ℝ) (hb : 0 < b) : 0 ≤ laplacePdf μ b x :=
  laplacePdf_nonneg μ b x hb

/-- log_normal(loc μ, scale σ): 1/(xσ√(2π)) e^{−(ln x−μ)²/(2σ²)} on x > 0 -/
theorem C13_log_normal_normalised (μ σ : ℝ) (hσ : 0 < σ) :
    ∫⁻ x, ENNReal.ofReal (logNormalPdf μ σ x) = 1 := logNormal_normalised μ σ hσ
example : ∫⁻ x, ENNReal.ofReal (logNormalPdf (1 / 5) (3 / 5) x) = 1 :=
  C13_log_normal_normalised _ _ (by norm_num)

/-- loc and scale are those of the underlying normal: density of exp(Y), Y ~ normal(μ, σ) -/
theorem C13_log_normal_param_log (μ σ x : ℝ) (hσ : 0 < σ) (hx : 0 < x) :
    logNormalPdf μ σ x = normalPdf μ σ (Real.log x) / x := logNormal_eq_normal_log μ σ x hσ hx

theorem C13_log_normal_nonneg (μ σ x : ℝ) (hσ : 0 < σ) : 0 ≤ logNormalPdf μ σ x :=
  logNormalPdf_nonneg μ σ x hσ

/-- half_normal(scale σ): √2/(σ√π) e^{−x²/(2σ²)} on x ≥ 0 -/
theorem C13_half_normal_normalised (σ : ℝ) (hσ : 0 < σ) :
    ∫⁻ x, ENNReal.ofReal (halfNormalPdf σ x) = 1 := halfNormal_normalised σ hσ
example : ∫⁻ x, ENNReal.ofReal (halfNormalPdf (13 / 10) x) = 1 :=
  C13_half_normal_normalised _ (by norm_num)

/-- the scale is the standard deviation of the underlying normal: |Y|, Y ~ normal(0, σ) -/
theorem C13_half_normal_param_normal (σ x : ℝ) (hσ : 0 < σ) (hx : 0 ≤ x) :
    halfNormalPdf σ x = 2 * normalPdf 0 σ x := halfNormal_eq_two_mul_normal σ x hσ hx

theorem C13_half_normal_nonneg (σ x : ℝ) (hσ : 0 < σ) : 0 ≤ halfNormalPdf σ x :=
  halfNormalPdf_nonneg σ x hσ

/-- inverse_gamma(concentration α, scale β): β^α/Γ(α) x^{−α−1} e^{−β/x} on x > 0 -/
theorem C13_inverse_gamma_normalised (a b : ℝ) (ha : 0 < a) (hb : 0 < b) :
    ∫⁻ x, ENNReal.ofReal (inverseGammaPdf a b x) = 1 := inverseGamma_normalised a b ha hb
example : ∫⁻ x, ENNReal.ofReal (inverseGammaPdf 3 2 x) = 1 :=
  C13_inverse_gamma_normalised 3 2 (by norm_num) (by norm_num)

/-- density of 1/Y for Y ~ gamma(α, rate β): the second parameter is a SCALE of the inverse gamma -/
theorem C13_inverse_gamma_param_gamma (a b x : ℝ) (hx : 0 < x) :
    inverseGammaPdf a b x = gammaPdf a b (1 / x) / x ^ 2 := inverseGamma_eq_gamma_inv a b x hx

theorem C13_inverse_gamma_nonneg (a b x : ℝ) (ha : 0 < a) (hb : 0 < b) :
    0 ≤ inverseGammaPdf a b x := inverseGammaPdf_nonneg a b x ha hb

/-- weibull(concentration k, scale λ): (k/λ)(x/λ)^{k−1} e^{−(x/λ)^k} on x ≥ 0 -/
theorem C13_weibull_normalised (k l : ℝ) (hk : 0 < k) (hl : 0 < l) :
    ∫⁻ x, ENNReal.ofReal (weibullPdf k l x) = 1 := weibull_normalised k l hk hl
example : ∫⁻ x, ENNReal.ofReal (weibullPdf (3 / 2) 2 x) = 1 :=
  C13_weibull_normalised _ _ (by norm_num) (by norm_num)

/-- the second parameter is a SCALE: weibull(1, λ) = exponential(rate 1/λ) -/
theorem C13_weibull_param_exponential (l x : ℝ) :
    weibullPdf 1 l x = exponentialPdf (1 / l) x := weibull_one_eq_exponential l x

theorem C13_weibull_nonneg (k l x : ℝ) (hk : 0 < k) (hl : 0 < l) : 0 ≤ weibullPdf k l x :=
  weibullPdf_nonneg k l x hk hl

/-- student_t(df ν, loc μ, scale σ):
Γ((ν+1)/2)/(Γ(ν/2)√(νπ)σ) (1+((x−μ)/σ)²/ν)^{−(ν+1)/2} -/
theorem C13_student_t_normalised (ν μ σ : ℝ) (hν : 0 < ν) (hσ : 0 < σ) :
    ∫⁻ x, ENNReal.ofReal (studentTPdf ν μ σ x) = 1 := studentT_normalised ν μ σ hν hσ
example : ∫⁻ x, ENNReal.ofReal (studentTPdf 4 (1 / 2) (3 / 2) x) = 1 :=
  C13_student_t_normalised _ _ _ (by norm_num) (by norm_num)

/-- parameter order (df, loc, scale): X = μ + σT with T standard Student t(ν) -/
theorem C13_student_t_param_loc_scale (ν μ σ x : ℝ) :
    studentTPdf ν μ σ x = 1 / σ * studentTStd ν ((x - μ) / σ) := studentT_eq_std ν μ σ x

/-- ν = 1 is cauchy(loc, scale) -/
theorem C13_student_t_param_cauchy (μ σ x : ℝ) : studentTPdf 1 μ σ x = cauchyPdf μ σ x :=
  studentT_one_eq_cauchy μ σ x

theorem C13_student_t_nonneg (ν μ σ x : ℝ) (hν : 0 < ν) (hσ : 0 < σ) :
    0 ≤ studentTPdf ν μ σ x := studentTPdf_nonneg ν μ σ x hν hσ

/-! ## negative_binomial, multinomial, zipf (Proofs/DistSpec3.lean) -/

/-- negative_binomial(total_count r, probs p): P(k) = C(k+r−1, k) p^k (1−p)^r — the number of
successes (probability p) before the r-th failure; r any real (documented: r > 0), 0 ≤ p < 1 -/
theorem C13_negative_binomial_normalised (r p : ℝ) (hp0 : 0 ≤ p) (hp1 : p < 1) :
    HasSum (negativeBinomialPmf r p) 1 := negativeBinomial_normalised r p hp0 hp1
example : HasSum (negativeBinomialPmf 3 (2 / 5)) 1 :=
  C13_negative_binomial_normalised 3 (2 / 5) (by norm_num) (by norm_num)

/-- integer total_count: the ordinary binomial coefficient C(k+r−1, k) -/
theorem C13_negative_binomial_param_nat (r : ℕ) (hr : 0 < r) (p : ℝ) (k : ℕ) :
    negativeBinomialPmf r p k = ((k + r - 1).choose k : ℝ) * p ^ k * (1 - p) ^ r :=
  negativeBinomial_nat r hr p k

/-- the Γ form evaluated by TFP: Γ(k+r)/(k! Γ(r)) p^k (1−p)^r -/
theorem C13_negative_binomial_param_Gamma (r p : ℝ) (hr : 0 < r) (k : ℕ) :
    negativeBinomialPmf r p k =
      Real.Gamma (k + r) / (k.factorial * Real.Gamma r) * p ^ k * (1 - p) ^ r :=
  negativeBinomial_eq_Gamma r p hr k

theorem C13_negative_binomial_nonneg (r p : ℝ) (hr : 0 < r) (hp0 : 0 ≤ p) (hp1 : p < 1) (k : ℕ) :
    0 ≤ negativeBinomialPmf r p k := negativeBinomialPmf_nonneg r p hr hp0 hp1 k

/-- multinomial(total_count n, probs p): n!/(k₁!…k_m!) ∏ p_i^{k_i} on count vectors adding up to n
(zero elsewhere) has total mass one over ALL count vectors -/
theorem C13_multinomial_normalised {m : ℕ} (n : ℕ) (p : Fin m → ℝ) (hp : ∑ i, p i = 1) :
    HasSum (multinomialPmf n p) 1 := multinomial_normalised n p hp
example : HasSum (multinomialPmf 4 ![1 / 5, 1 / 2, 3 / 10]) 1 :=
  C13_multinomial_normalised 4 _ (by rw [Fin.sum_univ_three]; norm_num [Matrix.cons_val_two])

/-- the same as a finite sum over the count vectors with total n -/
theorem C13_multinomial_normalised_finset {m : ℕ} (n : ℕ) (p : Fin m → ℝ) (hp : ∑ i, p i = 1) :
    ∑ k ∈ Finset.piAntidiag Finset.univ n, multinomialPmf n p k = 1 :=
  multinomial_normalised_finset n p hp

/-- two categories: binomial(n, p) -/
theorem C13_multinomial_param_binomial (n : ℕ) (p : ℝ) (k : ℕ) (hk : k ≤ n) :
    multinomialPmf n ![p, 1 - p] ![k, n - k] = binomialPmf n p k :=
  multinomial_two_eq_binomial n p k hk

theorem C13_multinomial_nonneg {m : ℕ} (n : ℕ) (p : Fin m → ℝ) (hp : ∀ i, 0 ≤ p i)
    (k : Fin m → ℕ) : 0 ≤ multinomialPmf n p k := multinomialPmf_nonneg n p hp k

/-- zipf(power s): P(k) = k^{−s}/ζ(s) on k = 1, 2, … (ζ = Mathlib's Riemann zeta) -/
theorem C13_zipf_normalised (s : ℝ) (hs : 1 < s) : HasSum (zipfPmf s) 1 := zipf_normalised s hs
example : HasSum (zipfPmf (5 / 2)) 1 := C13_zipf_normalised _ (by norm_num)

/-- the normalising constant is the Dirichlet series Σ_{n ≥ 1} n^{−s} -/
theorem C13_zipf_param_zeta (s : ℝ) (hs : 1 < s) :
    (riemannZeta (s : ℂ)).re = ∑' n : ℕ, 1 / (n : ℝ) ^ s := zeta_re_eq_tsum s hs

theorem C13_zipf_nonneg (s : ℝ) (hs : 1 < s) (k : ℕ) : 0 ≤ zipfPmf s k := zipfPmf_nonneg s hs k

/-! ## multivariate_normal (Proofs/DistSpec4.lean) -/

/-- multivariate_normal(loc μ, covariance_matrix Σ):
(2π)^{−k/2} |det Σ|^{−1/2} exp(−½ (x−μ)ᵀ Σ⁻¹ (x−μ)) has total mass one on ℝ^k for every positive
definite Σ -/
theorem C13_multivariate_normal_normalised {k : ℕ} (μ : Fin k → ℝ)
    (S : Matrix (Fin k) (Fin k) ℝ) (hS : S.PosDef) :
    ∫⁻ x, ENNReal.ofReal (multivariateNormalPdf μ S x) = 1 := multivariateNormal_normalised μ S hS
example : (Matrix.diagonal ![1, 2] : Matrix (Fin 2) (Fin 2) ℝ).PosDef :=
  Matrix.PosDef.diagonal (Fin.forall_fin_two.2 ⟨one_pos, two_pos⟩)
example : ((!![1, 3 / 5; 0, 1] : Matrix (Fin 2) (Fin 2) ℝ).transpose * !![1, 3 / 5; 0, 1]).PosDef := by
  refine Matrix.PosDef.conjTranspose_mul_self _ (Matrix.mulVec_injective_of_isUnit
    ((Matrix.isUnit_iff_isUnit_det (!![1, 3 / 5; 0, 1] : Matrix (Fin 2) (Fin 2) ℝ)).mpr ?_))
  rw [Matrix.det_fin_two_of]
  norm_num

/-- the matrix argument is a COVARIANCE: diag(σ_i²) gives independent normal(μ_i, σ_i) -/
theorem C13_multivariate_normal_param_diagonal {k : ℕ} (μ σ : Fin k → ℝ) (hσ : ∀ i, 0 < σ i)
    (x : Fin k → ℝ) :
    multivariateNormalPdf μ (Matrix.diagonal fun i => σ i ^ 2) x =
      ∏ i, normalPdf (μ i) (σ i) (x i) := multivariateNormal_diagonal μ σ hσ x

theorem C13_multivariate_normal_nonneg {k : ℕ} (μ : Fin k → ℝ) (S : Matrix (Fin k) (Fin k) ℝ)
    (x : Fin k → ℝ) : 0 ≤ multivariateNormalPdf μ S x := multivariateNormalPdf_nonneg μ S x

/-! ## dirichlet (Proofs/DistSpec5.lean) -/

/-- dirichlet(concentration α), α : Fin (n+1) → ℝ all positive:
Γ(Σα)/∏Γ(α_i) ∏ x_i^{α_i−1} has total mass one on the probability simplex, charted by its first n
coordinates (last coordinate 1 − Σ y) with Lebesgue measure in the chart (TFP / scipy convention) -/
theorem C13_dirichlet_normalised {n : ℕ} (α : Fin (n + 1) → ℝ) (hα : ∀ i, 0 < α i) :
    ∫⁻ y in {y : Fin n → ℝ | (∀ i, 0 < y i) ∧ ∑ i, y i < 1},
      ENNReal.ofReal (dirichletPdf α (Fin.snoc y (1 - ∑ i, y i))) = 1 := dirichlet_normalised α hα
example : ∫⁻ y in {y : Fin 2 → ℝ | (∀ i, 0 < y i) ∧ ∑ i, y i < 1},
    ENNReal.ofReal (dirichletPdf ![3 / 2, 2, 4 / 5] (Fin.snoc y (1 - ∑ i, y i))) = 1 :=
  C13_dirichlet_normalised _ (by simp [Fin.forall_fin_succ])

/-- two components: dirichlet(a, b) at (t, 1−t) = beta(concentration1 a, concentration0 b) at t -/
theorem C13_dirichlet_param_beta (a b t : ℝ) (ht : 0 < t ∧ t < 1) :
    dirichletPdf ![a, b] ![t, 1 - t] = betaPdf a b t := dirichlet_two_eq_beta a b t ht

theorem C13_dirichlet_nonneg {k : ℕ} (α x : Fin k → ℝ) (hα : ∀ i, 0 < α i) (hx : ∀ i, 0 ≤ x i) :
    0 ≤ dirichletPdf α x := dirichletPdf_nonneg α x hα hx

/-! ## The executable spec table (Model/DistExpr.lean) denotes these densities

`DistExpr.specTable` (Mathlib-free, printed by the driver command `(distspec)`) holds one closed
expression term per distribution.  The theorems below say that the real-valued denotation
(`DE.denote` / `DE.denoteV`, Proofs/DistExpr.lean) of the printed term IS the density whose
normalisation is proved above — for all real parameter values and all points, no side conditions.
The Python side (`distspec_eval.py`) evaluates the printed terms clause by clause like `denoteV`
and compares them with `dist.logpdf`; so the chain is
`genjax logpdf ≈ (numerically) printed term = (theorem) <name>Pdf`, `∫ <name>Pdf = 1` (theorem).
Discrete points are embedded into ℝ: `k ↦ (k : ℝ)`, `b ↦ boolPt b` (`true ↦ 1`, `false ↦ 0`).
Which term is printed under which name: `DistExpr.specLookup_table`. -/
section SpecTable
open DE DistExpr

theorem C13_spec_bernoulli_denotes (l : ℝ) (b : Bool) :
    spec_bernoulli.denote [l] (boolPt b) = bernoulliLogitsPmf l b := spec_bernoulli_denotes l b

theorem C13_spec_flip_denotes (p : ℝ) (b : Bool) :
    spec_flip.denote [p] (boolPt b) = flipPmf p b := spec_flip_denotes p b

theorem C13_spec_beta_denotes (a b x : ℝ) : spec_beta.denote [a, b] x = betaPdf a b x :=
  spec_beta_denotes a b x

theorem C13_spec_geometric_denotes (p : ℝ) (k : ℕ) :
    spec_geometric.denote [p] (k : ℝ) = geometricPmf p k := spec_geometric_denotes p k

theorem C13_spec_normal_denotes (μ σ x : ℝ) : spec_normal.denote [μ, σ] x = normalPdf μ σ x :=
  spec_normal_denotes μ σ x

theorem C13_spec_uniform_denotes (a b x : ℝ) : spec_uniform.denote [a, b] x = uniformPdf a b x :=
  spec_uniform_denotes a b x

theorem C13_spec_exponential_denotes (r x : ℝ) :
    spec_exponential.denote [r] x = exponentialPdf r x := spec_exponential_denotes r x

theorem C13_spec_poisson_denotes (r : ℝ) (k : ℕ) :
    spec_poisson.denote [r] (k : ℝ) = poissonPmf r k := spec_poisson_denotes r k

/-- total_count is passed as the real number `(n : ℝ)`; beyond `k = n` the term is 0 like `C(n,k)` -/
theorem C13_spec_binomial_denotes (n : ℕ) (p : ℝ) (k : ℕ) :
    spec_binomial.denote [(n : ℝ), p] (k : ℝ) = binomialPmf n p k := spec_binomial_denotes n p k

theorem C13_spec_gamma_denotes (a r x : ℝ) : spec_gamma.denote [a, r] x = gammaPdf a r x :=
  spec_gamma_denotes a r x

theorem C13_spec_log_normal_denotes (μ σ x : ℝ) :
    spec_log_normal.denote [μ, σ] x = logNormalPdf μ σ x := spec_log_normal_denotes μ σ x

theorem C13_spec_student_t_denotes (ν μ σ x : ℝ) :
    spec_student_t.denote [ν, μ, σ] x = studentTPdf ν μ σ x := spec_student_t_denotes ν μ σ x

theorem C13_spec_laplace_denotes (μ b x : ℝ) : spec_laplace.denote [μ, b] x = laplacePdf μ b x :=
  spec_laplace_denotes μ b x

theorem C13_spec_half_normal_denotes (σ x : ℝ) :
    spec_half_normal.denote [σ] x = halfNormalPdf σ x := spec_half_normal_denotes σ x

theorem C13_spec_inverse_gamma_denotes (a b x : ℝ) :
    spec_inverse_gamma.denote [a, b] x = inverseGammaPdf a b x := spec_inverse_gamma_denotes a b x

theorem C13_spec_weibull_denotes (k l x : ℝ) : spec_weibull.denote [k, l] x = weibullPdf k l x :=
  spec_weibull_denotes k l x

theorem C13_spec_cauchy_denotes (x₀ γ x : ℝ) : spec_cauchy.denote [x₀, γ] x = cauchyPdf x₀ γ x :=
  spec_cauchy_denotes x₀ γ x

theorem C13_spec_chi2_denotes (k x : ℝ) : spec_chi2.denote [k] x = chi2Pdf k x :=
  spec_chi2_denotes k x

theorem C13_spec_negative_binomial_denotes (r p : ℝ) (k : ℕ) :
    spec_negative_binomial.denote [r, p] (k : ℝ) = negativeBinomialPmf r p k :=
  spec_negative_binomial_denotes r p k

theorem C13_spec_zipf_denotes (s : ℝ) (k : ℕ) : spec_zipf.denote [s] (k : ℝ) = zipfPmf s k :=
  spec_zipf_denotes s k

/-- categorical with 3 categories: parameters are the three logits, the point is the index -/
theorem C13_spec_categorical_denotes (θ : Fin 3 → ℝ) (k : Fin 3) :
    spec_categorical3.denote [θ 0, θ 1, θ 2] ((k : ℕ) : ℝ) = categoricalPmf θ k :=
  spec_categorical3_denotes θ k

/-- multinomial with 3 categories: parameters `[n, p₀, p₁, p₂]`, point `(k₀, k₁, k₂)` -/
theorem C13_spec_multinomial_denotes (n : ℕ) (p : Fin 3 → ℝ) (k : Fin 3 → ℕ) :
    spec_multinomial3.denoteV [(n : ℝ), p 0, p 1, p 2] [(k 0 : ℝ), (k 1 : ℝ), (k 2 : ℝ)] =
      multinomialPmf n p k := spec_multinomial3_denotes n p k

/-- dirichlet with 3 components -/
theorem C13_spec_dirichlet_denotes (α x : Fin 3 → ℝ) :
    spec_dirichlet3.denoteV [α 0, α 1, α 2] [x 0, x 1, x 2] = dirichletPdf α x :=
  spec_dirichlet3_denotes α x

/-- multivariate_normal in dimension 2: parameters `[μ₀, μ₁, S₀₀, S₀₁, S₁₀, S₁₁]` (row-major
covariance), ANY 2×2 matrix `S` (for singular `S` both sides use `S⁻¹ = 0`, `0^(-1/2) = 0`) -/
theorem C13_spec_multivariate_normal_denotes (μ x : Fin 2 → ℝ) (S : Matrix (Fin 2) (Fin 2) ℝ) :
    spec_multivariate_normal2.denoteV [μ 0, μ 1, S 0 0, S 0 1, S 1 0, S 1 1] [x 0, x 1] =
      multivariateNormalPdf μ S x := spec_multivariate_normal2_denotes μ x S

/-! the denotation is not trivial: concrete values of printed terms -/
example : spec_flip.denote [1 / 4] (boolPt true) = 1 / 4 := by
  rw [C13_spec_flip_denotes]; simp [flipPmf]
example : spec_exponential.denote [2] 0 = 2 := by
  rw [C13_spec_exponential_denotes]; simp [exponentialPdf]
example : spec_uniform.denote [1, 3] 2 = 1 / 2 := by
  rw [C13_spec_uniform_denotes]; norm_num [uniformPdf]
example : spec_uniform.denote [1, 3] 4 = 0 := by
  rw [C13_spec_uniform_denotes]; norm_num [uniformPdf]
example : spec_geometric.denote [1 / 2] ((2 : ℕ) : ℝ) = 1 / 8 := by
  rw [C13_spec_geometric_denotes]; norm_num [geometricPmf]
example : spec_binomial.denote [((3 : ℕ) : ℝ), 1 / 2] ((1 : ℕ) : ℝ) = 3 / 8 := by
  rw [C13_spec_binomial_denotes, binomialPmf]; norm_num [Nat.choose]

/-! consequently the PRINTED terms have total mass one (the statement the Python check relies on);
spelled out for four entries (two densities on ℝ, a mass function on ℕ, one on Bool) — the others
follow in the same way from `C13_spec_<name>_denotes` and `C13_<name>_normalised`. -/

theorem C13_spec_gamma_normalised (a r : ℝ) (ha : 0 < a) (hr : 0 < r) :
    ∫⁻ x, ENNReal.ofReal (spec_gamma.denote [a, r] x) = 1 := by
  simp only [C13_spec_gamma_denotes]; exact gamma_normalised a r ha hr
example : ∫⁻ x, ENNReal.ofReal (spec_gamma.denote [2, 3 / 2] x) = 1 :=
  C13_spec_gamma_normalised 2 (3 / 2) (by norm_num) (by norm_num)

theorem C13_spec_normal_normalised (μ σ : ℝ) (hσ : 0 < σ) :
    ∫⁻ x, ENNReal.ofReal (spec_normal.denote [μ, σ] x) = 1 := by
  simp only [C13_spec_normal_denotes]; exact normal_normalised μ σ hσ
example : ∫⁻ x, ENNReal.ofReal (spec_normal.denote [-2, 3 / 10] x) = 1 :=
  C13_spec_normal_normalised _ _ (by norm_num)

theorem C13_spec_poisson_normalised (r : ℝ) :
    HasSum (fun k : ℕ => spec_poisson.denote [r] (k : ℝ)) 1 := by
  simp only [C13_spec_poisson_denotes]; exact poisson_normalised r

theorem C13_spec_flip_normalised (p : ℝ) :
    spec_flip.denote [p] (boolPt true) + spec_flip.denote [p] (boolPt false) = 1 := by
  simp only [C13_spec_flip_denotes]; exact flip_normalised p

end SpecTable

end Genjax.DistSpec

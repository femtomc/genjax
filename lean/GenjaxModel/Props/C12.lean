import GenjaxModel.Proofs.Resample
import GenjaxModel.Proofs.ResampleIntegral
import GenjaxModel.Proofs.ResampleCategorical
import Mathlib.Tactic.NormNum
import GenjaxModel.Proofs.GfiGather
/-!
# C12 — resampling copies particles faithfully, preserves the estimate, and is unbiased

Model: `Model/Resample.lean` (linear-domain weights `w_i = exp(log_weights_i)`; the estimate
`exp(log_marginal_likelihood) = acc * mean w`). The statements about systematic resampling and
`resample` are over an arbitrary linearly ordered field with floor (ℚ, ℝ, …), every weight vector
with non-negative entries and positive sum, every particle count `n`, every offset `u ∈ (0,1)`.

Unbiasedness (E[copies_i] = N·w_i) is proved for both methods:
`C12_systematic_unbiased` (over ℝ, Lebesgue integral over the uniform offset, with the integration
step `C12_integral_floor_sub` and integrability `C12_systematic_integrable` fully formalised) and
`C12_categorical_unbiased` (finite expectation `FinDist.E` over N i.i.d. categorical draws, any field).
-/
namespace Genjax.Resample
variable {K : Type} [Field K] [LinearOrder K] [IsStrictOrderedRing K] [FloorRing K]

/-- same number of particles -/
theorem C12_same_count (w : List K) (n : Nat) (u : K) : (systematic w n u).length = n := by
  rw [systematic, List.length_map, List.length_range]

/-- every ancestor index designates an input particle (only `0 < Σ w` and `u < 1` are used) -/
theorem C12_index_valid (w : List K) (n : Nat) (u : K)
    (hw : ∀ x ∈ w, 0 ≤ x) (hs : 0 < sum w) (hu0 : 0 < u) (hu1 : u < 1) :
    ∀ i ∈ systematic w n u, i < w.length := systematic_index_lt hs n hu1

/-- the copies add up to N -/
theorem C12_total (w : List K) (n : Nat) (u : K)
    (hw : ∀ x ∈ w, 0 ≤ x) (hs : 0 < sum w) (hu0 : 0 < u) (hu1 : u < 1) :
    ((List.range w.length).map (copies (systematic w n u))).sum = n :=
  systematic_total w n u hw hs hu0 hu1

/-- closed form of the copy count as a function of the offset: with c = N·C_i and d = N·w_i,
    copies_i(u) = ⌊c − u⌋ − ⌊c − u − d⌋.  Since ∫₀¹ ⌊a − u⌋ du = a − 1 for every real a
    (`C12_integral_floor_sub` below), the expected number of copies over a uniform offset is
    d = N·w_i (`C12_systematic_unbiased` below). -/
theorem C12_count_formula (w : List K) (n : Nat) (u : K)
    (hw : ∀ x ∈ w, 0 ≤ x) (hs : 0 < sum w) (hu0 : 0 < u) (hu1 : u < 1)
    (i : Nat) (hi : i < w.length) :
    (copies (systematic w n u) i : Int) =
      ⌊(n : K) * ((cumsum (normalize w)).getD i 0) - u⌋ -
      ⌊(n : K) * ((cumsum (normalize w)).getD i 0) - u - (n : K) * (w.getD i 0 / sum w)⌋ := by
  have h := count_searchsorted (cumsum_normalize_sorted hw hs) (cumsum_normalize_mem hw hs)
    n hu0 hu1 (i := i) (by rwa [cumsum_normalize_length])
  rwa [← cumsum_normalize_prev w hi, mul_sub, sub_right_comm] at h

/-- systematic resampling gives particle i ⌊N w_i⌋ or ⌈N w_i⌉ copies for EVERY offset in (0,1) -/
theorem C12_floor_ceil (w : List K) (n : Nat) (u : K)
    (hw : ∀ x ∈ w, 0 ≤ x) (hs : 0 < sum w) (hu0 : 0 < u) (hu1 : u < 1)
    (i : Nat) (hi : i < w.length) :
    ⌊(n : K) * (w.getD i 0 / sum w)⌋ ≤ (copies (systematic w n u) i : Int) ∧
    (copies (systematic w n u) i : Int) ≤ ⌈(n : K) * (w.getD i 0 / sum w)⌉ := by
  rw [C12_count_formula w n u hw hs hu0 hu1 i hi]
  exact floor_sub_floor_sub _ _

/-- `resample` leaves exp(log_marginal_likelihood()) exactly unchanged -/
theorem C12_estimate_invariant {α : Type} [Inhabited α] (c : Coll K α) (idx : List Nat)
    (hn : c.w.length ≠ 0) (hl : idx.length = c.w.length) :
    (c.resample idx).lml = c.lml := by
  have hne : (c.w.length : K) ≠ 0 := Nat.cast_ne_zero.mpr hn
  simp only [Coll.lml, Coll.resample, List.length_map, sum_map_one, hl]
  rw [div_self hne, mul_one]

/-- particle j of the result is particle idx[j] of the input (one source index for the whole
    particle), and all weights are reset to 1 = exp 0 -/
theorem C12_copy_faithful {α : Type} [Inhabited α] (c : Coll K α) (idx : List Nat) (j : Nat)
    (hj : j < idx.length) :
    (c.resample idx).particles.getD j default = c.particles.getD (idx.getD j 0) default ∧
    (c.resample idx).w.getD j 0 = 1 := by
  simp [Coll.resample, hj]

/-- the pre-resampling normalised weights are kept as diagnostic weights -/
theorem C12_diagnostic_kept {α : Type} [Inhabited α] (c : Coll K α) (idx : List Nat) :
    (c.resample idx).diag = normalize c.w ∧ (c.resample idx).particles.length = idx.length :=
  ⟨rfl, List.length_map _⟩

/-- non-vacuity: a concrete weight vector and offset meet every hypothesis -/
example : (∀ x ∈ ([1, 2, 1] : List ℚ), 0 ≤ x) ∧ 0 < sum ([1, 2, 1] : List ℚ) ∧
    (0 : ℚ) < 1/2 ∧ (1/2 : ℚ) < 1 := by
  decide +kernel

/-! ## Unbiasedness: E[copies_i] = N · w_i for both resampling methods -/

/-- the integration step: ∫₀¹ ⌊a − u⌋ du = a − 1 for every real `a` (Lebesgue / interval integral) -/
theorem C12_integral_floor_sub (a : ℝ) : ∫ u in (0:ℝ)..1, ((⌊a - u⌋ : ℤ) : ℝ) = a - 1 := by
  -- the integrand is `⌊a⌋` on `(0, fract a)` and `⌊a⌋ - 1` on `(fract a, 1)`
  rw [← intervalIntegral.integral_add_adjacent_intervals
      (intervalIntegrable_floor_sub a 0 (Int.fract a)) (intervalIntegrable_floor_sub a (Int.fract a) 1),
    intervalIntegral.integral_congr_Ioo_of_le (Int.fract_nonneg a)
      (g := fun _ => ((⌊a⌋ : ℤ) : ℝ)) fun u hu => by rw [floor_sub_left a u hu.1 hu.2],
    intervalIntegral.integral_congr_Ioo_of_le (Int.fract_lt_one a).le
      (g := fun _ => ((⌊a⌋ - 1 : ℤ) : ℝ)) fun u hu => by rw [floor_sub_right a u hu.1 hu.2],
    intervalIntegral.integral_const, intervalIntegral.integral_const, smul_eq_mul, smul_eq_mul,
    Int.cast_sub, Int.cast_one, ← Int.self_sub_floor]
  ring

/-- on the open unit interval the copy count is a difference of two floor step functions
    (`C12_count_formula` over ℝ, cast to ℝ) -/
theorem copies_eqOn (w : List ℝ) (n : ℕ) (hw : ∀ x ∈ w, 0 ≤ x) (hs : 0 < sum w)
    (i : ℕ) (hi : i < w.length) :
    Set.EqOn (fun u : ℝ => ((copies (systematic w n u) i : ℤ) : ℝ))
      (fun u : ℝ => ((⌊(n : ℝ) * ((cumsum (normalize w)).getD i 0) - u⌋ : ℤ) : ℝ) -
        ((⌊((n : ℝ) * ((cumsum (normalize w)).getD i 0) - (n : ℝ) * (w.getD i 0 / sum w)) - u⌋ : ℤ) : ℝ))
      (Set.Ioo 0 1) := by
  intro u hu
  simp only [C12_count_formula w n u hw hs hu.1 hu.2 i hi, Int.cast_sub]
  rw [sub_right_comm]

/-- the copy count of particle `i`, as a function of the offset `u`, is integrable on `[0,1]`
    (proved, not assumed) — so the integral in `C12_systematic_unbiased` is a genuine expectation
    and not the junk value `0` that Mathlib assigns to non-integrable functions. -/
theorem C12_systematic_integrable (w : List ℝ) (n : ℕ) (hw : ∀ x ∈ w, 0 ≤ x) (hs : 0 < sum w)
    (i : ℕ) (hi : i < w.length) :
    IntervalIntegrable (fun u : ℝ => ((copies (systematic w n u) i : ℤ) : ℝ))
      MeasureTheory.volume 0 1 :=
  ((intervalIntegrable_floor_sub _ 0 1).sub (intervalIntegrable_floor_sub _ 0 1)).congr_uIoo
    (by rw [Set.uIoo_of_le zero_le_one]; exact (copies_eqOn w n hw hs i hi).symm)

/-- **systematic resampling is unbiased**: for an offset `u` uniformly distributed on `[0,1]`
    (`uniform.sample(0.0, 1.0)` in `systematic_resample`) the expected number of copies of particle
    `i` is `N · w_i / Σ w`, for every non-negative weight vector with positive sum, every particle
    count `n` and every valid index `i`.  The endpoints `u = 0, 1` (where `C12_count_formula` is not
    claimed) have Lebesgue measure zero. -/
theorem C12_systematic_unbiased (w : List ℝ) (n : ℕ) (hw : ∀ x ∈ w, 0 ≤ x) (hs : 0 < sum w)
    (i : ℕ) (hi : i < w.length) :
    ∫ u in (0:ℝ)..1, ((copies (systematic w n u) i : ℤ) : ℝ) = (n : ℝ) * (w.getD i 0 / sum w) := by
  rw [intervalIntegral.integral_congr_Ioo_of_le zero_le_one (copies_eqOn w n hw hs i hi),
    intervalIntegral.integral_sub (intervalIntegrable_floor_sub _ 0 1)
      (intervalIntegrable_floor_sub _ 0 1), C12_integral_floor_sub, C12_integral_floor_sub]
  ring

omit [LinearOrder K] [IsStrictOrderedRing K] [FloorRing K] in
/-- the categorical ancestor distribution `multinomial w n` (n i.i.d. draws with
    P(index = i) = w_i/Σw, `categorical.sample(log_weights, sample_shape=(n,))`) is normalised and
    every outcome is a vector of `n` indices — so `E (multinomial w n) ·` is a true expectation. -/
theorem C12_categorical_normalised (w : List K) (n : Nat) (hs : sum w ≠ 0) :
    Smc.FinDist.mass (multinomial w n) = 1 ∧
      ∀ idx ∈ Smc.supp (multinomial w n), idx.length = n :=
  ⟨mass_multinomial w n hs, multinomial_length w n⟩

omit [LinearOrder K] [IsStrictOrderedRing K] [FloorRing K] in
/-- **categorical (multinomial) resampling is unbiased**: E[copies_i] = N · w_i / Σ w, in the exact
    finite-expectation vocabulary of `Model/Smc.lean`; any field, any weight vector with non-zero
    total, any number of draws, any valid index. -/
theorem C12_categorical_unbiased (w : List K) (n : Nat) (hs : sum w ≠ 0) (i : Nat)
    (hi : i < w.length) :
    Smc.FinDist.E (multinomial w n) (fun idx => ((copies idx i : Nat) : K)) =
      (n : K) * (w.getD i 0 / sum w) := by
  rw [funext fun idx => copies_eq_sumK idx i, multinomial,
    E_replicate_sum _ (mass_categoricalDist w hs), E_categoricalDist_indicator w i hi]

omit [LinearOrder K] [IsStrictOrderedRing K] [FloorRing K] in
/-- the same for the resampling move `Smc.resampleStep` used in the C10 unbiasedness proofs
    (`maybeResample_est`): the expected number of resampled particles equal to `x` is
    N · (Σ_{j : x_j = x} w_j) / Σ w — i.e. N · w_i/Σw when particle values are pairwise distinct. -/
theorem C12_resampleStep_unbiased {X : Type} [DecidableEq X] (s : Smc.Sys K X)
    (ht : Smc.sumK (s.parts.map (·.2)) ≠ 0) (x : X) :
    Smc.FinDist.E (Smc.resampleStep s)
        (fun s' => Smc.sumK (s'.parts.map fun (yw : X × K) => if yw.1 = x then (1 : K) else 0))
      = (s.parts.length : K) *
        (Smc.sumK (s.parts.map fun (yw : X × K) => if yw.1 = x then yw.2 else 0) /
          Smc.sumK (s.parts.map (·.2))) := by
  simp only [Smc.resampleStep, Smc.E_bind, Smc.E_pure]
  rw [List.map_const', E_replicate_sum _ ((mass_map_div s.parts _ _ _).trans (div_self ht)),
    E_map_div]
  simp only [mul_ite, mul_one, mul_zero]

/-- non-vacuity over ℝ: w = [1,2,1], n = 4, i = 1 meets every hypothesis of
    `C12_systematic_unbiased`, and the expected number of copies of the middle particle is 2 -/
example : ∫ u in (0:ℝ)..1, ((copies (systematic ([1, 2, 1] : List ℝ) 4 u) 1 : ℤ) : ℝ) = 2 := by
  have h := C12_systematic_unbiased ([1, 2, 1] : List ℝ) 4
    (by intro x hx; simp at hx; rcases hx with rfl | rfl | rfl <;> norm_num)
    (by norm_num [sum]) 1 (by simp)
  rw [h]; norm_num [sum]

/-- non-vacuity for the categorical method (ℚ): w = [1,2,1], n = 4, i = 1 -/
example : Smc.FinDist.E (multinomial ([1, 2, 1] : List ℚ) 4)
    (fun idx => ((copies idx 1 : Nat) : ℚ)) = 2 := by
  rw [C12_categorical_unbiased ([1, 2, 1] : List ℚ) 4 (by decide +kernel) 1 (by decide)]
  decide +kernel

/-! ## The resampled particle collection is a coherent TRACE

`C12_copy_faithful` speaks about an abstract list of particles.  Here the particles are the lanes
of the Vmap trace that `ParticleCollection.traces` is (`Proofs/GfiGather.lean`, `Props/C05.lean`):
after `resample` the collection is again a coherent trace — for the GATHERED arguments. -/

/-- **`resample` returns a coherent particle trace and the same estimate.**  Let the particles of
    `c` be the lanes of a coherent trace of `Vmap g axes N` on `args` (`N` = number of weights),
    `idx` an ancestor vector of length `N` with entries `< N` (as `C12_index_valid`,
    `C12_same_count` provide for systematic resampling).  Then
    * the resampled particles are a coherent trace of `Vmap g axes N` on `gatherArgs axes idx args`
      (mapped arguments gathered with the same `idx`, broadcast arguments unchanged);
    * particle `j` of the result is particle `idx[j]` of the input, coherent for the callee on
      particle `idx[j]`'s own arguments (one source index for the whole particle, arguments included);
    * the score of the resampled trace is the sum of the ancestors' scores;
    * `exp(log_marginal_likelihood())` is unchanged (`C12_estimate_invariant`). -/
theorem C12_resample_trace_coherent {R : Type} [Zero R] [Add R] [Neg R] (P : Prims R)
    (g : GF) (axes : List Bool) (args : List Val) (c : Coll K (Tr R)) (idx : List Nat)
    (hcoh : (GF.vmap g axes c.w.length).Coh P args (.vec (TrL.ofList c.particles)))
    (hidx : ∀ i ∈ idx, i < c.w.length) (hn : c.w.length ≠ 0) (hl : idx.length = c.w.length) :
    (GF.vmap g axes (c.resample idx).w.length).Coh P (gatherArgs axes idx args)
        (.vec (TrL.ofList (c.resample idx).particles)) ∧
    (∀ j i, idx[j]? = some i →
      ∃ t, c.particles[i]? = some t ∧ (c.resample idx).particles[j]? = some t ∧
        laneArgs axes (gatherArgs axes idx args) j = laneArgs axes args i ∧
        g.Coh P (laneArgs axes args i) t) ∧
    (Tr.vec (TrL.ofList (c.resample idx).particles)).score =
      sumR (idx.map fun i => (c.particles.getD i default).score) ∧
    (c.resample idx).lml = c.lml := by
  have hp : TrL.ofList (c.resample idx).particles = (TrL.ofList c.particles).gather idx := by
    rw [TrL.gather, TrL.toList_ofList]; rfl
  have hw : (c.resample idx).w.length = idx.length := List.length_map _
  refine ⟨?_, ?_, ?_, C12_estimate_invariant c idx hn hl⟩
  · rw [hw, hp]
    exact vmap_gather_coherent P g axes _ args _ idx hcoh hidx
  · intro j i hj
    obtain ⟨t, h1, h2, h3⟩ := vmap_gather_lane P g axes _ args _ idx hcoh hidx j i hj
    rw [TrL.toList_ofList] at h1
    rw [← hp, TrL.toList_ofList] at h2
    exact ⟨t, h1, h2, laneArgs_gatherArgs idx j i hj axes args, h3⟩
  · rw [hp, vmap_gather_score, TrL.toList_ofList]

/-- **the recorded arguments have to be resampled with the particles** (proved counterexample,
    the seeded regression `/verif/seeded/C12_3`): a coherent 3-particle collection with positive
    weights and an in-range ancestor vector of the right length whose resampled particle trace is
    NOT coherent for the un-gathered arguments. -/
theorem C12_resample_args_needed :
    ∃ (P : Prims ℤ) (g : GF) (axes : List Bool) (args : List Val) (c : Coll ℚ (Tr ℤ))
      (idx : List Nat),
      (GF.vmap g axes c.w.length).Coh P args (.vec (TrL.ofList c.particles)) ∧
      (∀ i ∈ idx, i < c.w.length) ∧ c.w.length ≠ 0 ∧ idx.length = c.w.length ∧
      ¬ (GF.vmap g axes (c.resample idx).w.length).Coh P args
          (.vec (TrL.ofList (c.resample idx).particles)) := by
  refine ⟨gatherExP, gatherExG, [true, false], gatherExArgs,
    ⟨gatherExLanes.toList, [1, 2, 1], 1, []⟩, [2, 0, 0], gatherEx_coh, by decide, by decide, rfl,
    gatherEx_not_coh⟩

/-- non-vacuity of `C12_resample_trace_coherent`: the 3-particle collection of `Props/C05.lean`
    (mapped argument `(10,20,30)`, broadcast argument `5`) with weights `[1,2,1]`, `idx = [2,0,0]` -/
example : let c : Coll ℚ (Tr ℤ) := ⟨gatherExLanes.toList, [1, 2, 1], 1, []⟩
    (GF.vmap gatherExG [true, false] c.w.length).Coh gatherExP gatherExArgs
        (.vec (TrL.ofList c.particles)) ∧
    (∀ i ∈ [2, 0, 0], i < c.w.length) ∧ c.w.length ≠ 0 ∧ [2, 0, 0].length = c.w.length :=
  ⟨gatherEx_coh, by decide, by decide, rfl⟩

end Genjax.Resample

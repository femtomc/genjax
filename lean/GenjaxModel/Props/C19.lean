import GenjaxModel.Proofs.State
import GenjaxModel.Proofs.StateSpec
import GenjaxModel.Proofs.StateSpecShape
import GenjaxModel.Proofs.StateSpecAsis
import GenjaxModel.Proofs.Interp
/-!
# C19 — state/save collects exactly what was saved

Model `Model/State.lean`: the State interpreter over the equations of a staged function
(tags in named and leaf mode, namespace push/pop, scan bodies run under a fresh interpreter per
iteration, vmapped bodies seen as batched equations). Transparency ("wrapping does not change the
result") is a statement about the implementation only and is checked by the correspondence run.

Four parts: single operations (a write, a tag, a vmapped tag, a scanned tag); the interpreter at
`nsAcrossScan = true` (scan states merged under the namespaces enclosing the scan, genjax since
29643bb) refines the event-list specification for every program; the variant `nsAcrossScan = false`
(scan states merged at the root, genjax up to 29643bb) does so on the programs of `SPL.asisOK`;
saves inside calls the interpreter re-binds (`Model/Interp.lean`).
-/
namespace Genjax.State

/-- a later write to the same name replaces the earlier one … -/
theorem C19_later_write_wins (s : Store) (p : Path) (v : SV) : (s.set p v).get? p = some v := by
  rw [get_set, beq_self_eq_true]; rfl

/-- … and leaves every entry that is not below that name alone -/
theorem C19_write_is_local (s : Store) (p q : Path) (v : SV) (h1 : isPrefix p q = false) :
    (s.set p v).get? q = s.get? q := by
  rw [get_set, beq_false_of_isPrefix_false h1, h1]; rfl

/-- a named save lands under its name inside the enclosing namespaces, whatever the interpreter
    state, iteration indices and enclosing vmaps -/
theorem C19_tag_collects (cfg : Cfg) (name : String) (id : Nat) (idx lanes : List Nat) (st : St) :
    ∃ st', (SP.tag name id).exec cfg idx lanes st = some st' ∧ st'.ns = st.ns ∧
      st'.store.get? (st.ns ++ [name]) = some (batched id idx lanes) :=
  ⟨_, rfl, rfl, C19_later_write_wins _ _ _⟩

/-- values saved under vmap are batched (one entry per lane, every lane count n) -/
theorem C19_vmap_batched (cfg : Cfg) (name : String) (id n : Nat) (st : St) :
    ∃ st', (SP.vmap (.cons (.tag name id) .nil) n).exec cfg [] [] st = some st' ∧
      st'.store.get? (st.ns ++ [name]) =
        some (SV.stack ((List.range n).map fun l => SV.atom id [l])) :=
  ⟨_, rfl, C19_later_write_wins _ _ _⟩

/-- values saved inside scan bodies are stacked along the iteration axis and stored under the
    namespaces enclosing the scan (`nsAcrossScan = true`, what the specification demands), every
    length n ≥ 1 -/
theorem C19_scan_stacks (name : String) (id n : Nat) (hn : 0 < n) (st : St) :
    ∃ st', (SP.scan (.cons (.tag name id) .nil) n).exec ⟨true⟩ [] [] st = some st' ∧ st'.ns = st.ns ∧
      st'.store.get? (st.ns ++ [name]) =
        some (SV.stack ((List.range n).map fun i => SV.atom id [i])) :=
  ⟨_, exec_scan_tag ⟨true⟩ name id n hn st, rfl, C19_later_write_wins _ _ _⟩

/-- with `nsAcrossScan = false` they are stored at the root instead … -/
theorem C19_scan_stacks_asis (name : String) (id n : Nat) (hn : 0 < n) (st : St) :
    ∃ st', (SP.scan (.cons (.tag name id) .nil) n).exec ⟨false⟩ [] [] st = some st' ∧ st'.ns = st.ns ∧
      st'.store.get? [name] =
        some (SV.stack ((List.range n).map fun i => SV.atom id [i])) := by
  refine ⟨_, exec_scan_tag ⟨false⟩ name id n hn st, rfl, ?_⟩
  -- the merge replaces everything under the top-level name by the one stacked entry
  have hg : ∀ v, grp [([name], v)] name = [([name], v)] := fun v =>
    List.filter_cons_of_pos (beq_self_eq_true _)
  show Store.get? (st.store.replaceTop name (grp _ name)) [name] = _
  rw [hg, Store.replaceTop, Store.get?, List.find?_append, List.find?_eq_none.mpr, Option.none_or,
    List.find?_cons, beq_self_eq_true]
  · rfl
  · intro e he hq
    have := (List.mem_filter.mp he).2
    rw [eq_of_beq hq, List.head?_cons, beq_self_eq_true] at this; cases this

/-- … which loses a namespace opened around the scan (proved counterexample, replayed on the
    implementation as the first corpus case of the check) -/
theorem C19_asis_ns_across_scan_cex :
    let p : SPL := .cons (.push "a") (.cons (.scan (.cons (.tag "x" 1) .nil) 2) (.cons .pop .nil))
    collect ⟨false⟩ p = some [(["x"], SV.stack [SV.atom 1 [0], SV.atom 1 [1]])] ∧
    collect ⟨true⟩ p = some [(["a", "x"], SV.stack [SV.atom 1 [0], SV.atom 1 [1]])] :=
  ⟨rfl, rfl⟩

/-!
## Refinement of an event-list specification, for EVERY program

`Model/StateSpec.lean` defines the SPEC: `SPL.saves p outer ns idx lanes` lists the save events of a
program in chronological order, each with its FULL path (all enclosing namespaces, also those opened
around enclosing scans, then the name) and its batched value; the events of `scan body n` are, for
every path written by the body, one event whose value is the stack over the iterations of what that
iteration left there; `collectSpec p` replays the events on the empty dictionary, later write wins.
The model (`SP.exec`) instead runs every scan iteration in a fresh interpreter with an EMPTY namespace
stack and merges the stacked result afterwards; the theorems below show that the merge under the
enclosing namespaces (`nsAcrossScan = true`) makes the two agree on all programs: arbitrary nesting
of scans in scans, vmaps, namespaces opened inside and around scans, overwrites, leaf-mode saves,
and also programs that raise (both sides `none`) or leave namespaces open inside a scan body (both
sides drop them at the end of the iteration).
-/

/-- **C19 for every program** (`nsAcrossScan = true`): the collected dictionary IS the replay of the save
    events of the program, as an equality of `Option Store` - same failures, same entries, same
    values, same insertion order. No well-bracketedness hypothesis is needed. -/
theorem C19_collect_refines_spec (p : SPL) : collect ⟨true⟩ p = collectSpec p := by
  rw [collect, collectSpec, savesTop, exec_spec_both.2, Option.map_map, Option.map_map]; rfl

/-- the same for a block started in ANY interpreter state (any store, any open namespaces), under
    any enclosing scan indices and vmaps: the interpreter replays the block's events on its store -/
theorem C19_exec_refines_spec (p : SPL) (idx lanes : List Nat) (st : St) :
    p.exec ⟨true⟩ idx lanes st
      = (p.saves [] st.ns idx lanes).map
          fun r => { store := r.1.foldl (fun s e => Store.set s e.1 e.2) st.store, ns := r.2 } :=
  exec_spec_both.2 p idx lanes st

/-- non-vacuity / worked instance: a namespace around a scan of a scan with overwrites
    (`with namespace a: scan(λ. save(x=e1); scan(λ. save(y=e2); save(y=e3), 2); save(x=e4), 2)`,
    then `save(z=e5)`): both sides are this three-entry dictionary -/
example :
    let p : SPL := .cons (.push "a") (.cons (.scan (.cons (.tag "x" 1) (.cons (.scan
      (.cons (.tag "y" 2) (.cons (.tag "y" 3) .nil)) 2) (.cons (.tag "x" 4) .nil))) 2)
      (.cons .pop (.cons (.tag "z" 5) .nil)))
    let expected : Store :=
      [(["a", "y"], .stack [.stack [.atom 3 [0, 0], .atom 3 [0, 1]],
                            .stack [.atom 3 [1, 0], .atom 3 [1, 1]]]),
       (["a", "x"], .stack [.atom 4 [0], .atom 4 [1]]),
       (["z"], .atom 5 [])]
    collect ⟨true⟩ p = some expected ∧ collectSpec p = some expected := by
  intro p expected
  have h : collect ⟨true⟩ p = some expected := rfl
  exact ⟨h, (C19_collect_refines_spec p).symm.trans h⟩

/-- the collected dictionary read path by path: at `q` it holds the value of the LAST save at exactly
    `q`, unless a later save at a path above `q` replaced that whole sub-dictionary (`lastSave`) -/
theorem C19_collected_is_last_save (p : SPL) (s : Store) (h : collect ⟨true⟩ p = some s) :
    ∃ evs, savesTop p = some evs ∧ ∀ q, s.get? q = lastSave evs q := by
  rw [C19_collect_refines_spec, collectSpec, Option.map_eq_some_iff] at h
  obtain ⟨evs, hevs, rfl⟩ := h
  exact ⟨evs, hevs, get_collectEvents evs⟩

/-- a saved value is collected: if the save events of `p` are `before ++ (q, v) :: after` and nothing
    in `after` is saved at `q` or at a path above `q`, then the program does not raise and the
    collected dictionary holds `v` at `q` -/
theorem C19_saved_value_collected (p : SPL) (evs before after : List Event) (q : Path) (v : SV)
    (hs : savesTop p = some evs) (hsplit : evs = before ++ (q, v) :: after)
    (hlast : ∀ e ∈ after, isPrefix e.1 q = false) :
    ∃ s, collect ⟨true⟩ p = some s ∧ s.get? q = some v := by
  refine ⟨collectEvents evs, by rw [C19_collect_refines_spec, collectSpec, hs]; rfl, ?_⟩
  rw [get_collectEvents, hsplit]
  exact lastSave_split before after q v hlast

/-- non-vacuity: in `save(x=e1); with namespace a: scan(λ. save(y=e2), 2); save(x=e3)` the second
    save of `x` is the last event and it is what is collected at `x` -/
example :
    let p : SPL := .cons (.tag "x" 1) (.cons (.push "a") (.cons (.scan (.cons (.tag "y" 2) .nil) 2)
      (.cons .pop (.cons (.tag "x" 3) .nil))))
    ∃ s, collect ⟨true⟩ p = some s ∧ s.get? ["x"] = some (.atom 3 []) := by
  intro p
  exact C19_saved_value_collected p
    [(["x"], .atom 1 []), (["a", "y"], .stack [.atom 2 [0], .atom 2 [1]]), (["x"], .atom 3 [])]
    [(["x"], .atom 1 []), (["a", "y"], .stack [.atom 2 [0], .atom 2 [1]])] [] ["x"] (.atom 3 [])
    rfl rfl (fun e he => by cases he)

/-- nothing else is collected: every entry of the collected dictionary is (path and value of) one of
    the save events of the program -/
theorem C19_nothing_else_collected (p : SPL) (s : Store) (h : collect ⟨true⟩ p = some s) :
    ∃ evs, savesTop p = some evs ∧ ∀ e ∈ s, e ∈ evs := by
  rw [C19_collect_refines_spec, collectSpec, Option.map_eq_some_iff] at h
  obtain ⟨evs, hevs, rfl⟩ := h
  exact ⟨evs, hevs, fun e he => mem_collectEvents evs e he⟩

/-- which paths a block saves to, whether it raises, and the namespace stack it leaves do not depend
    on the enclosing iteration indices and vmap sizes - so all iterations of a scan write the same
    paths -/
theorem C19_saved_paths_independent_of_indices (p : SPL) (outer ns : List String)
    (idx lanes idx' lanes' : List Nat) :
    (p.saves outer ns idx lanes).map (fun r => (r.1.map (·.1), r.2))
      = (p.saves outer ns idx' lanes').map (fun r => (r.1.map (·.1), r.2)) :=
  saves_shape_both.2 p outer ns idx lanes idx' lanes'

/-- the events of a scan, spelled out without any default value (the `getD` in `stackEvents` /
    `stackStores` is never used): the scan leaves the namespace stack alone; each of its events has
    as value the stack, over ALL iterations `i < n` in order, of the value iteration `i` of the body
    left at that path (later write wins inside the body), the body being run under the namespaces
    `outer ++ ns` enclosing the scan with no namespace of its own open; and the paths of the scan's
    events are exactly the paths left by any one iteration -/
theorem C19_scan_event_is_stack_of_iterations (body : SPL) (n : Nat) (outer ns : List String)
    (idx lanes : List Nat) (evs : List Event) (ns' : List String)
    (h : (SP.scan body n).saves outer ns idx lanes = some (evs, ns')) :
    ns' = ns ∧
    (∀ e ∈ evs, ∃ vals : List SV, e.2 = SV.stack vals ∧ vals.length = n ∧
      ∀ i (hi : i < vals.length), ∃ r, body.saves (outer ++ ns) [] (idx ++ [i]) lanes = some r ∧
        (collectEvents r.1).get? e.1 = some vals[i]) ∧
    (∀ i, i < n → ∃ r, body.saves (outer ++ ns) [] (idx ++ [i]) lanes = some r ∧
        evs.map (·.1) = (collectEvents r.1).map (·.1)) := by
  rw [SP.saves_scan, Saver.scan, Option.map_eq_some_iff] at h
  obtain ⟨rs, hm, heq⟩ := h
  obtain ⟨rfl, rfl⟩ := Prod.mk.inj heq
  have hF := mapM_eq_some hm
  have hlen : rs.length = n := hF.length_eq.symm.trans List.length_range
  -- iteration `i` is the `i`-th entry of `rs`
  have hrun : ∀ i (hi : i < n),
      body.saves (outer ++ ns) [] (idx ++ [i]) lanes = some (rs[i]'(hlen ▸ hi)) := fun i hi => by
    have := hF.get (List.length_range ▸ hi) (hlen ▸ hi)
    rwa [List.get_eq_getElem, List.getElem_range] at this
  -- all iterations leave the same paths
  have hkeys : ∀ i j (hi : i < n) (hj : j < n), keys (collectEvents (rs[i]'(hlen ▸ hi)).1)
      = keys (collectEvents (rs[j]'(hlen ▸ hj)).1) := fun i j hi hj => by
    have := saves_shape_both.2 body (outer ++ ns) [] (idx ++ [i]) lanes (idx ++ [j]) lanes
    rw [hrun i hi, hrun j hj] at this
    rw [keys_collectEvents, keys_collectEvents, (Prod.mk.inj (Option.some.inj this)).1]
  refine ⟨rfl, fun e he => ?_, fun i hi => ⟨_, hrun i hi, ?_⟩⟩
  · cases rs with
    | nil => cases he
    | cons r0 rest =>
      obtain ⟨e0, he0, rfl⟩ := List.mem_map.mp he
      refine ⟨_, rfl, by rw [List.length_map, List.length_map]; exact hlen, fun i hi => ?_⟩
      have hin : i < n := by rwa [List.length_map, List.length_map, hlen] at hi
      refine ⟨_, hrun i hin, ?_⟩
      rw [List.getElem_map, List.getElem_map]
      exact get_of_mem_keys _ _ (hkeys i 0 hin (Nat.zero_lt_of_lt hin) ▸ List.mem_map_of_mem (f := (·.1)) he0)
  · rw [← keys, keys_stackEvents, List.map_map]
    cases rs with
    | nil => subst hlen; exact absurd hi (Nat.not_lt_zero _)
    | cons r0 rest => exact hkeys 0 i (Nat.zero_lt_of_lt hi) hi

/-- non-vacuity: a scan (under namespace `a`) whose body overwrites `x` and opens a namespace -/
example :
    (SP.scan (.cons (.tag "x" 1) (.cons (.push "b") (.cons (.tag "y" 2) (.cons .pop
        (.cons (.tag "x" 3) .nil))))) 2).saves ["a"] [] [] []
      = some ([(["a", "b", "y"], .stack [.atom 2 [0], .atom 2 [1]]),
               (["a", "x"], .stack [.atom 3 [0], .atom 3 [1]])], []) := by rfl

/-! ## The variant `nsAcrossScan = false` (scan states merged at the root) -/

/-- **the variant `nsAcrossScan = false`** (scan states merged at the root, genjax up to 29643bb)
    satisfies the same specification on the programs accepted by `SPL.asisOK`
    (`Model/StateSpec.lean`): every scan - at any nesting depth - is reached with no namespace open
    in its interpreter, and the top-level names written by its body are different from all
    top-level names written before it in the same interpreter. For those programs
    neither side raises, the two dictionaries have the same entries (`List.Perm`) and answer every
    look-up alike. What is excluded is where the two variants differ: namespaces around a scan, and
    sibling entries under a top-level name that a scan also writes.

    `_partial` because (1) the entries may come in a different ORDER in the flat store (the merge at
    the root groups the scan's entries by top-level name; see `C19_asis_order_differs`), so the full statement
    `collect ⟨false⟩ p = collectSpec p` is false as an equality of lists, and (2) `asisOK` is a
    sufficient syntactic condition, not a characterisation. -/
theorem C19_asis_agrees_without_ns_around_scan_partial (p : SPL) (ns' seen' : List String)
    (h : p.asisOK ([], []) = some (ns', seen')) :
    ∃ m s, collect ⟨false⟩ p = some m ∧ collectSpec p = some s ∧ m.Perm s ∧
      ∀ q, m.get? q = s.get? q := by
  obtain ⟨evs, hsv, _, _, hex⟩ := asis_spec_both.2 p [] [] ns' seen' [] [] h
  obtain ⟨m, hm, hp⟩ := hex [] [] (.refl _) List.Pairwise.nil (.nil _)
  refine ⟨m, collectEvents evs, ?_, ?_, hp, get_perm m _ hp (WfK_nodup _ (WfK_collectEvents evs))⟩
  · rw [collect, hm]; rfl
  · rw [collectSpec, savesTop, hsv]; rfl

/-- non-vacuity, and why only "up to order": this program (a save, then a scan whose body opens and
    closes a namespace twice around a nested scan with an overwrite) is accepted by `asisOK`; the
    interpreter at `nsAcrossScan = false` and the spec collect the same four entries, the last two in different order -/
theorem C19_asis_order_differs :
    let p : SPL := .cons (.tag "z" 5) (.cons (.scan (.cons (.push "a") (.cons (.tag "x" 1) (.cons .pop
      (.cons (.scan (.cons (.tag "y" 2) (.cons (.tag "y" 3) .nil)) 2) (.cons (.push "a")
      (.cons (.tag "w" 4) (.cons .pop .nil))))))) 2) .nil)
    let y : SV := .stack [.stack [.atom 3 [0, 0], .atom 3 [0, 1]],
                          .stack [.atom 3 [1, 0], .atom 3 [1, 1]]]
    p.asisOK ([], []) = some ([], ["z", "a", "y", "y", "a"]) ∧
    collect ⟨false⟩ p = some [(["z"], .atom 5 []), (["a", "x"], .stack [.atom 1 [0], .atom 1 [1]]),
      (["a", "w"], .stack [.atom 4 [0], .atom 4 [1]]), (["y"], y)] ∧
    collectSpec p = some [(["z"], .atom 5 []), (["a", "x"], .stack [.atom 1 [0], .atom 1 [1]]),
      (["y"], y), (["a", "w"], .stack [.atom 4 [0], .atom 4 [1]])] := by
  intro p y
  exact ⟨by decide +kernel, rfl, (C19_collect_refines_spec p).symm.trans rfl⟩

/-- the two defects `asisOK` excludes, on the smallest programs: a namespace around a scan (rejected;
    the merge at the root loses the namespace, see `C19_asis_ns_across_scan_cex`) and a scan writing
    under a top-level name used before (rejected; the merge at the root drops the earlier sibling
    entry `a.k`) -/
theorem C19_asisOK_rejects_the_repaired_defects :
    let p1 : SPL := .cons (.push "a") (.cons (.scan (.cons (.tag "x" 1) .nil) 2) (.cons .pop .nil))
    let p2 : SPL := .cons (.push "a") (.cons (.tag "k" 1) (.cons .pop
      (.cons (.scan (.cons (.push "a") (.cons (.tag "x" 2) (.cons .pop .nil))) 2) .nil)))
    p1.asisOK ([], []) = none ∧ p2.asisOK ([], []) = none ∧
    collect ⟨false⟩ p2 = some [(["a", "x"], .stack [.atom 2 [0], .atom 2 [1]])] ∧
    collect ⟨true⟩ p2 = some [(["a", "k"], .atom 1 []),
      (["a", "x"], .stack [.atom 2 [0], .atom 2 [1]])] := by
  intro p1 p2
  exact ⟨by decide +kernel, by decide +kernel, rfl, rfl⟩

/-! ## Saves inside calls the interpreter does not interpret -/

/-- the state interpreter is NOT guarded (Model/Interp.lean, kinds: scan interpreted, nested jit / checkpoint
    evaluated in place since fix 9b3be7d, custom_jvp / custom_vjp / while re-bound): handled and dropped saves
    partition the saves of the program; nothing is dropped iff no re-bound equation holds a save, and then every save
    is collected once, in order (`_partial`: the open finding state-dropped-in-uninterpreted-call is the other case) -/
theorem C19_collects_all_unless_rebound_partial (j : Interp.J) :
    ((Interp.runOld j).1 ++ (Interp.runOld j).2).Perm j.sites ∧
    ((Interp.runOld j).2 = [] ↔ j.blocked = false) ∧
    (j.blocked = false → (Interp.runOld j).1 = j.sites) := by
  refine ⟨Interp.runOld_partition j, ?_, fun h => ?_⟩
  · rw [← List.isEmpty_iff, Interp.runOld_escaped_isEmpty, Bool.not_eq_true']
  · rw [Interp.runOld_of_not_blocked j h]

/-- a nested jit / checkpoint (kind `inline`) is transparent; a custom_jvp function (kind `rebind`) drops its save -/
theorem C19_call_examples :
    Interp.runOld (.call .inline (.site 1 .done) (.site 2 .done)) = ([1, 2], []) ∧
    Interp.runOld (.call .rebind (.site 1 .done) (.site 2 .done)) = ([2], [1]) := ⟨rfl, rfl⟩

end Genjax.State

import GenjaxModel.Proofs.Chain
import GenjaxModel.Proofs.ChainMulti
/-!
# C18 — chain returns exactly the burnt-in, thinned kernel iterates and diagnostics

Model `Model/Chain.lean`: the kernel is an arbitrary function `step j s` (application number `j`
— under `seed` its randomness is a function of (key, j) only, which the correspondence run checks
by re-iterating the seeded kernel with the keys `fold_in(sub_key, j)`). All statements hold for
every kernel, initial state, n_steps, burn_in and thinning ≥ 1.
-/
namespace Genjax.Chain
variable {σ : Type} [Inhabited σ]

/-- the un-thinned run lists the states visited after 1, 2, …, n applications with their flags -/
theorem C18_full_run (step : Nat → σ → σ × Bool) (n : Nat) (init : σ) (j : Nat) (hj : j < n) :
    (run step n 0 init).getD j (default, false) = (iter step (j + 1) init, accepted step j init) :=
  run_getD step n init j hj

/-- n_steps counts the retained states: ⌈(n − burn_in)/thinning⌉ of them, one accept flag each -/
theorem C18_count (step : Nat → σ → σ × Bool) (init : σ) (n b k : Nat) (hk : 0 < k) :
    (chain step init n b k).nSteps = (n - b + k - 1) / k ∧
    (chain step init n b k).states.length = (n - b + k - 1) / k ∧
    (chain step init n b k).accepts.length = (n - b + k - 1) / k := chain_count step init n b k hk

/-- retained state i is the state visited after step burn_in + i·thinning, and accepts[i] is the
    flag of that very step -/
theorem C18_slice (step : Nat → σ → σ × Bool) (init : σ) (n b k : Nat) (hk : 0 < k)
    (i : Nat) (hi : i < (chain step init n b k).nSteps) :
    (chain step init n b k).states.getD i default = iter step (b + i * k + 1) init ∧
    (chain step init n b k).accepts.getD i false = accepted step (b + i * k) init :=
  chain_slice step init n b k hk i hi

/-- with the same kernel randomness the result is that slice of the un-thinned run -/
theorem C18_slice_of_unthinned (step : Nat → σ → σ × Bool) (init : σ) (n b k : Nat) (hk : 0 < k)
    (i : Nat) (hi : i < (chain step init n b k).nSteps) :
    (chain step init n b k).states.getD i default =
      (chain step init n 0 1).states.getD (b + i * k) default ∧
    (chain step init n b k).accepts.getD i false =
      (chain step init n 0 1).accepts.getD (b + i * k) false := by
  rw [chain_eq step init n b k hk] at hi ⊢
  have hlt : b + i * k < (n - 0 + 1 - 1) / 1 := by
    rw [Nat.div_one, Nat.add_sub_cancel, Nat.sub_zero]
    exact arange_lt hk hi
  rw [chain_eq step init n 0 1 Nat.one_pos]
  simp only [getD_map_range _ _ hi, getD_map_range _ _ hlt, Nat.zero_add, Nat.mul_one, and_self]

/-- the numerator of acceptance_rate = acceptCount / n_steps is the number of `True` among the
    returned accept flags (the quotient itself: `C18_rate_is_mean`) -/
theorem C18_rate (step : Nat → σ → σ × Bool) (init : σ) (n b k : Nat) :
    (chain step init n b k).acceptCount = ((chain step init n b k).accepts.filter id).length :=
  chain_accept_count step init n b k

/-- non-vacuity: a concrete run -/
example : (chain (fun j (s : Nat) => (s + j + 1, j % 2 == 0)) 0 7 1 3).states = [3, 15] := by decide

/-! ## Acceptance rate as a mean (with the division), multi-chain branch, seeded-kernel view

`Model/ChainMulti.lean`: `Result.rate` (= `jnp.mean(final_accepts)`), `multiChain` (the
`n_chains != 1` branch: `modular_vmap` of the single-chain code over the replicated initial trace,
lane `ci` running the kernel `steps ci`), `runChain` (dispatch on `n_chains == 1`), `seededStep`. -/

/-- single chain: `acceptance_rate` is the mean of the RETURNED (burnt-in, thinned) flags, as a
    rational number: rate = #True(accepts) / len(accepts); when the result is non-empty
    rate · n_steps = acceptCount (so rate = acceptCount / n_steps is a genuine quotient, not the
    totalised `x / 0 = 0`), 0 ≤ rate ≤ 1, and in terms of the kernel: rate = #{ i < n_steps : step
    number burn_in + i·thinning was accepted } / n_steps with n_steps = ⌈(n − burn_in)/thinning⌉.
    Strengthens `C18_rate` (which only states the count). -/
theorem C18_rate_is_mean (step : Nat → σ → σ × Bool) (init : σ) (n b k : Nat) (hk : 0 < k) :
    (chain step init n b k).rate = meanBool (chain step init n b k).accepts ∧
    (0 < (chain step init n b k).nSteps →
      (chain step init n b k).rate * ((chain step init n b k).nSteps : Rat)
        = ((chain step init n b k).acceptCount : Rat)) ∧
    (0 ≤ (chain step init n b k).rate ∧ (chain step init n b k).rate ≤ 1) ∧
    (chain step init n b k).rate
      = (((List.range ((n - b + k - 1) / k)).filter fun i => accepted step (b + i * k) init).length : Rat)
          / (((n - b + k - 1) / k : Nat) : Rat) := by
  refine ⟨chain_rate_eq_meanBool step init n b k, ?_, ?_, ?_⟩
  · intro h
    exact div_mul_cancel₀ _ (Nat.cast_ne_zero.mpr (Nat.ne_of_gt h))
  · rw [chain_rate_eq_meanBool]
    exact ⟨meanBool_nonneg _, meanBool_le_one _⟩
  · rw [Result.rate, chain_eq step init n b k hk]

/-- the retained flags / states are, in order, those of the step numbers b, b+k, b+2k, … -/
theorem C18_result_lists (step : Nat → σ → σ × Bool) (init : σ) (n b k : Nat) (hk : 0 < k) :
    (chain step init n b k).states
      = (List.range ((n - b + k - 1) / k)).map (fun i => iter step (b + i * k + 1) init) ∧
    (chain step init n b k).accepts
      = (List.range ((n - b + k - 1) / k)).map (fun i => accepted step (b + i * k) init) := by
  rw [chain_eq step init n b k hk]
  exact ⟨rfl, rfl⟩

/-- non-vacuity of `C18_rate_is_mean`: 2 retained steps (numbers 1 and 4 of 7), one accepted -/
example : (chain (fun j (s : Nat) => (s + j + 1, j % 2 == 0)) 0 7 1 3).rate = 1 / 2 ∧
    0 < (chain (fun j (s : Nat) => (s + j + 1, j % 2 == 0)) 0 7 1 3).nSteps := by decide +kernel

/-- multi-chain: lane `ci` of every stacked field is the single-chain result of lane `ci`'s kernel
    on the same initial state with the same n, burn_in, thinning (states, accepts, n_steps, and the
    per-chain rate); in particular it does not depend on the other lanes' kernels. Every n, burn_in,
    thinning, number of chains. -/
theorem C18_multi_lane (steps : Nat → Nat → σ → σ × Bool) (init : σ) (n b k c : Nat)
    (ci : Nat) (hc : ci < c) :
    (multiChain steps init n b k c).states[ci]? = some (chain (steps ci) init n b k).states ∧
    (multiChain steps init n b k c).accepts[ci]? = some (chain (steps ci) init n b k).accepts ∧
    (multiChain steps init n b k c).nSteps = (chain (steps ci) init n b k).nSteps ∧
    (multiChain steps init n b k c).chainRates[ci]? = some (chain (steps ci) init n b k).rate := by
  rw [multiChain_states, multiChain_accepts, multiChain_chainRates]
  simp only [List.getElem?_map, List.getElem?_range hc, Option.map_some, true_and, and_true]
  rfl

/-- shapes: leading axis = n_chains for states, accepts (and the per-chain rates); second axis =
    n_steps = ⌈(n − burn_in)/thinning⌉ in every lane -/
theorem C18_multi_shape (steps : Nat → Nat → σ → σ × Bool) (init : σ) (n b k c : Nat) (hk : 0 < k) :
    (multiChain steps init n b k c).states.length = c ∧
    (multiChain steps init n b k c).accepts.length = c ∧
    (multiChain steps init n b k c).chainRates.length = c ∧
    (multiChain steps init n b k c).nChains = c ∧
    (multiChain steps init n b k c).nSteps = (n - b + k - 1) / k ∧
    (∀ row ∈ (multiChain steps init n b k c).states, row.length = (n - b + k - 1) / k) ∧
    (∀ row ∈ (multiChain steps init n b k c).accepts, row.length = (n - b + k - 1) / k) := by
  have hrow {α : Type} (f : Result σ → List α)
      (hf : ∀ ci, (f (chain (steps ci) init n b k)).length = (n - b + k - 1) / k) :
      ∀ row ∈ (List.range c).map (fun ci => f (chain (steps ci) init n b k)),
        row.length = (n - b + k - 1) / k := by
    intro row hrow
    obtain ⟨ci, _, rfl⟩ := List.mem_map.mp hrow
    exact hf ci
  rw [multiChain_states, multiChain_accepts, multiChain_chainRates]
  simp only [List.length_map, List.length_range, true_and]
  exact ⟨rfl, arange_length b n k hk,
    hrow (·.states) fun ci => (chain_count (steps ci) init n b k hk).2.1,
    hrow (·.accepts) fun ci => (chain_count (steps ci) init n b k hk).2.2⟩

/-- entry (ci, i) of the stacked result is lane ci's state after its step number
    burn_in + i·thinning, and accepts[ci][i] is the flag of that very step -/
theorem C18_multi_slice (steps : Nat → Nat → σ → σ × Bool) (init : σ) (n b k c : Nat) (hk : 0 < k)
    (ci : Nat) (hc : ci < c) (i : Nat) (hi : i < (multiChain steps init n b k c).nSteps) :
    (((multiChain steps init n b k c).states.getD ci []).getD i default
        = iter (steps ci) (b + i * k + 1) init) ∧
    (((multiChain steps init n b k c).accepts.getD ci []).getD i false
        = accepted (steps ci) (b + i * k) init) := by
  obtain ⟨h1, h2, h3, _⟩ := C18_multi_lane steps init n b k c ci hc
  simpa only [List.getD_eq_getElem?_getD, h1, h2, Option.getD_some]
    using chain_slice (steps ci) init n b k hk i (h3 ▸ hi)

/-- multi-chain rates, as the code computes them: the per-chain rates are the row means of the
    RETURNED flags (`jnp.mean(combined_accepts, axis=1)`, each in [0,1]); the reported
    `acceptance_rate` is the mean of the per-chain rates; and for a non-empty result
    (n_chains > 0, n_steps > 0) that equals the mean of all returned flags
    = (Σ_lanes #True) / (n_chains · n_steps). -/
theorem C18_multi_rate (steps : Nat → Nat → σ → σ × Bool) (init : σ) (n b k c : Nat) (hk : 0 < k) :
    (multiChain steps init n b k c).chainRates = (multiChain steps init n b k c).accepts.map meanBool ∧
    (∀ r ∈ (multiChain steps init n b k c).chainRates, 0 ≤ r ∧ r ≤ 1) ∧
    (multiChain steps init n b k c).rate = meanRat (multiChain steps init n b k c).chainRates ∧
    (0 < c → 0 < (multiChain steps init n b k c).nSteps →
      (multiChain steps init n b k c).rate = meanBool (multiChain steps init n b k c).accepts.flatten ∧
      (multiChain steps init n b k c).rate
        = ((((multiChain steps init n b k c).accepts.map countTrue).sum : Nat) : Rat)
            / ((c * (multiChain steps init n b k c).nSteps : Nat) : Rat)) := by
  obtain ⟨_, hlen, _, _, hN, _, hrows⟩ := C18_multi_shape steps init n b k c hk
  rw [← hN] at hrows
  refine ⟨rfl, ?_, rfl, fun _ _ => ?_⟩
  · intro r hr
    obtain ⟨row, _, rfl⟩ := List.mem_map.mp hr
    exact ⟨meanBool_nonneg row, meanBool_le_one row⟩
  · have key := meanRat_map_meanBool _ _ hrows
    have flat := meanBool_flatten _ _ hrows
    rw [hlen] at key flat
    exact ⟨key.trans flat.symm, key⟩

/-- `n_chains = 1` returns the single-chain result of lane 0 without a chain axis; any other
    `n_chains` returns the stacked result -/
theorem C18_multi_dispatch (steps : Nat → Nat → σ → σ × Bool) (init : σ) (n b k c : Nat) :
    runChain steps init n b k 1 = .single (chain (steps 0) init n b k) ∧
    (c ≠ 1 → runChain steps init n b k c = .multi (multiChain steps init n b k c)) :=
  ⟨if_pos rfl, fun hc => if_neg hc⟩

/-- non-vacuity of the multi-chain theorems: 3 lanes with different kernels, n=7, burn_in=1,
    thinning=3: lane rates 1/2, 1, 1/2 and overall rate 2/3 = 4 accepted of 3·2 retained steps -/
example :
    let r := multiChain (fun ci j (s : Nat) => (s + j + ci, j % (ci + 2) == 1)) 0 7 1 3 3
    r.states = [[1, 10], [3, 15], [5, 20]] ∧ r.accepts = [[true, false], [true, true], [true, false]] ∧
    r.nSteps = 2 ∧ r.chainRates = [1 / 2, 1, 1 / 2] ∧ r.rate = 2 / 3 := by decide +kernel

/-- seeded-kernel view: when application number `j` of the kernel is `kern (fold j)` (under `seed`
    the scan body gets the key `fold_in(sub_key, j)`), retained state `i` of `chain` is the state
    obtained by manually iterating the seeded kernel with the keys fold 0, …, fold (b + i·k) from
    the initial state -/
theorem C18_seeded_view {κ : Type} (kern : κ → σ → σ × Bool) (fold : Nat → κ) (init : σ)
    (n b k : Nat) (hk : 0 < k) (i : Nat)
    (hi : i < (chain (seededStep kern fold) init n b k).nSteps) :
    (chain (seededStep kern fold) init n b k).states.getD i default
      = iterKeys kern fold (b + i * k + 1) init ∧
    (chain (seededStep kern fold) init n b k).accepts.getD i false
      = (kern (fold (b + i * k)) (iterKeys kern fold (b + i * k) init)).2 := by
  obtain ⟨h1, h2⟩ := chain_slice (seededStep kern fold) init n b k hk i hi
  rw [h1, h2, iter_seeded]
  refine ⟨rfl, ?_⟩
  unfold accepted
  rw [iter_seeded]
  rfl

example : iterKeys (fun (key : Nat) (s : Nat) => (s * 2 + key, key % 2 == 0)) (fun j => 10 + j) 3 1
    = 82 := by decide

end Genjax.Chain

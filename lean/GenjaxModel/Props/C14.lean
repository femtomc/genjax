import GenjaxModel.Proofs.LoweringR
import GenjaxModel.Proofs.Interp
/-!
# C14 — unseeded sampling can never be compiled into a fixed-randomness program

`Model/Lowering.lean` is a *decision model* of JAX + pjax: for a placement (the list of
constructs around one sampling site, outermost first) it says what calling it does, with and
without `seed`. Its rules (i)–(ix) are assumptions about JAX that the check re-validates on every
run by executing placements on the real libraries (every one up to depth 1 and a sample of depth 2-3 in
the quick tier, every one up to depth 3 in the thorough tier; `opaque` stands for
jax.checkpoint, `customD` for custom_jvp / custom_vjp: the higher-order primitives neither Seed nor
modular_vmap interprets). The theorems below are about the model; they hold for placements of every depth.
`Cfg.spec` is what the property demands; `Cfg.asis` is the code today (two open findings).
`Proofs/LoweringR.lean` has the case lemmas for placements in which custom-derivative constructs are
already resolved, and what `relocate` preserves.
-/
namespace Genjax.Lowering

/-- specification variant: no placement, of any depth, ends in a silent outcome -/
theorem C14_no_silent_path_spec (pl : List C) :
    (outcome Cfg.spec pl).ok = true ∧ (seeded Cfg.spec pl).ok = true := by
  constructor
  · rcases outcomeR_spec_cases (relocate false pl) with h | h | ⟨h, _⟩ <;> (rw [outcome, h]; rfl)
  · rcases seededR_spec_cases (relocate false pl) with h | h | ⟨h, _⟩ <;> (rw [seeded, h]; rfl)

/-- a site under any compiling construct (jit, scan, while_loop, fori_loop, cond, switch, nested
    jit, at any depth) raises: the lowering error, or the batch error if a plain vmap with batched
    site arguments is involved -/
theorem C14_compile_raises_spec (pl : List C) (h : pl.any C.compiles = true) :
    outcome Cfg.spec pl = .loweringError ∨ outcome Cfg.spec pl = .batchError := by
  rcases outcomeR_spec_cases (relocate false pl) with h' | h' | ⟨_, hc, _⟩
  · exact .inl h'
  · exact .inr h'
  · rw [relocate_any C.compiles rfl rfl, h] at hc; cases hc

/-- plain jax.vmap over a site raises instead of replicating one draw -/
theorem C14_plain_vmap_raises_spec (pl : List C)
    (hv : pl.contains .vmapU = true ∨ pl.contains .vmapB = true) :
    outcome Cfg.spec pl = .loweringError ∨ outcome Cfg.spec pl = .batchError := by
  rcases outcomeR_spec_cases (relocate false pl) with h' | h' | ⟨_, _, hU, hB⟩
  · exact .inl h'
  · exact .inr h'
  · rw [relocate_contains .vmapU rfl rfl] at hU
    rw [relocate_contains .vmapB rfl rfl] at hB
    rw [hU, hB] at hv
    cases hv <;> contradiction

/-- seed either yields a function of the key or raises -/
theorem C14_seed_total_spec (pl : List C) :
    seeded Cfg.spec pl = .keyFunction ∨ seeded Cfg.spec pl = .loweringError ∨
      seeded Cfg.spec pl = .batchError := by
  rcases seededR_spec_cases (relocate false pl) with h | h | ⟨h, _⟩
  · exact .inr (.inl h)
  · exact .inr (.inr h)
  · exact .inl h

/-- The code as it is agrees with the specification on every placement without `grad` and without
    an unbatched plain vmap. `_partial`: the two side conditions carve out the open findings. -/
theorem C14_asis_partial (pl : List C) (hg : hasGrad pl = false) (hu : pl.contains .vmapU = false) :
    outcome Cfg.asis pl = outcome Cfg.spec pl ∧ seeded Cfg.asis pl = seeded Cfg.spec pl :=
  asis_eq_spec_R (relocate false pl) (relocate_no_grad pl hg)
    ((relocate_contains .vmapU rfl rfl false pl).trans hu)

/-- rules (vii)/(viii), the behaviour of fixes c963c34 / df67764, which the check replays on the code:
    `seed` of a site wrapped in jax.checkpoint raises for every placement (before the fixes it returned a
    value that ignored the key). For a custom_jvp / custom_vjp wrapper, which a `grad` above it turns into
    the place of differentiation, only the instances of `C14_opaque_examples` are stated. -/
theorem C14_opaque_seed_raises_spec (pl : List C) (h : pl.contains .opaque = true) :
    seeded Cfg.spec pl = .loweringError ∨ seeded Cfg.spec pl = .batchError := by
  rcases seededR_spec_cases (relocate false pl) with h' | h' | ⟨_, hall⟩
  · exact .inl h'
  · exact .inr h'
  · cases List.all_eq_true.mp hall .opaque (relocate_opaque false pl (List.contains_iff_mem.mp h))

/-- the same for the code as it is, when no differentiation is involved -/
theorem C14_opaque_seed_raises_asis (pl : List C) (h : pl.contains .opaque = true)
    (hg : hasGrad pl = false) (hu : pl.contains .vmapU = false) :
    seeded Cfg.asis pl = .loweringError ∨ seeded Cfg.asis pl = .batchError := by
  rw [(C14_asis_partial pl hg hu).2]; exact C14_opaque_seed_raises_spec pl h

theorem C14_opaque_examples :
    seeded Cfg.asis [.opaque] = .loweringError ∧ outcome Cfg.asis [.opaque] = .fresh ∧
    seeded Cfg.asis [.customD] = .loweringError ∧
    outcome Cfg.asis [.mvmap, .opaque] = .loweringError ∧ outcome Cfg.asis [.opaque, .mvmap] = .fresh ∧
    outcome Cfg.asis [.mvmap, .vmapB, .opaque] = .batchError ∧
    seeded Cfg.asis [.vmapB, .mvmap, .opaque] = .loweringError ∧
    -- rule (ix): below a grad the custom rule runs inside the vmap, checkpoint stays opaque
    seeded Cfg.asis [.grad, .vmapB, .customD] = .replicated ∧
    seeded Cfg.asis [.grad, .vmapB, .opaque] = .batchError ∧
    seeded Cfg.asis [.grad, .mvmap, .customD] = .loweringError := by
  decide +kernel

/-- proved counterexamples (replayed on the implementation by the check):
    jit∘grad bakes a key, seed∘grad ignores its key -/
theorem C14_asis_grad_cex :
    outcome Cfg.asis [.jit, .grad] = .baked ∧ seeded Cfg.asis [.grad] = .keyIgnored ∧
    outcome Cfg.spec [.jit, .grad] = .loweringError ∧ seeded Cfg.spec [.grad] = .keyFunction := by
  decide +kernel

/-- the same open finding under a modular_vmap: below a `jit` the code as it is raises, as the specification
    demands (modular_vmap meets a `jit` that still holds the site, fix df67764; before it the inlined draw was one
    trace-time constant shared by all lanes); below a `scan`, which modular_vmap interprets, the key is ignored -/
theorem C14_asis_grad_mvmap_jit_cex :
    seeded Cfg.asis [.grad, .mvmap, .jit] = .loweringError ∧
    seeded Cfg.asis [.grad, .mvmap, .scan] = .keyIgnored ∧
    seeded Cfg.spec [.grad, .mvmap, .jit] = .loweringError := by
  decide +kernel

/-- proved counterexample for the other open finding: plain vmap with unbatched site arguments
    replicates one draw -/
theorem C14_asis_vmap_cex :
    outcome Cfg.asis [.vmapU] = .replicated ∧ outcome Cfg.spec [.vmapU] = .batchError := by
  decide +kernel

/-! ### The Seed interpreter as an interpreter (Model/Interp.lean): no site escapes it -/

/-- `seed` with the guard of fix c963c34, on every Jaxpr (any nesting of cond / scan bodies it interprets and of
    equations it re-binds): if it returns, it has given a key to EVERY sampling site, each exactly once, in
    evaluation order; it raises exactly when it reaches a re-bound equation that still holds a site -/
theorem C14_seed_no_site_escapes (j : Interp.J) :
    (∀ h, Interp.run j = some h → h = j.sites) ∧ (Interp.run j = none ↔ j.blocked = true) :=
  ⟨Interp.run_handles_all j, Interp.run_none_iff_blocked j⟩

/-- the code before the fix: a site escapes (is evaluated by JAX with hidden randomness) exactly on the
    Jaxprs on which the guarded interpreter raises; smallest witness: one site inside one re-bound equation -/
theorem C14_seed_unguarded_escapes (j : Interp.J) :
    ((Interp.runOld j).2 ≠ [] ↔ Interp.run j = none) ∧
    Interp.runOld (.call .rebind (.site 0 .done) .done) = ([], [0]) ∧
    Interp.run (.call .rebind (.site 0 .done) .done) = none :=
  ⟨Interp.runOld_escapes_iff j, rfl, rfl⟩

end Genjax.Lowering

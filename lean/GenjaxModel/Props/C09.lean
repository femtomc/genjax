import GenjaxModel.Proofs.Mcmc
import GenjaxModel.Proofs.McmcKernels
import GenjaxModel.Proofs.GfiRegenMH
import GenjaxModel.Proofs.GfiRegenTie
import GenjaxModel.Proofs.McmcInvariance
import GenjaxModel.Proofs.GfiAssessCond
import Mathlib.Algebra.Order.Field.Rat
import Mathlib.Analysis.Complex.Exponential
import Mathlib.Tactic.NormNum
/-!
# C09 — mh, mala and hmc are reversible with respect to the posterior

Partial. What is proved (any linearly ordered field, any dimension, any force field / drift):
* the accept rule `log u < min(0, w)` is the Metropolis–Hastings rule and satisfies detailed balance;
* n leapfrog steps followed by a momentum flip is an involution;
* a rejected move returns the input state;
* (`Model/McmcKernels.lean`) the log acceptance ratio that `mala` computes — model weight
  + backward − forward Gaussian proposal log density, written as the code writes it, two-level sum over
  the leaves of the choice tree, gradient at x for the forward and at x' for the backward density — IS
  the log Metropolis–Hastings ratio [log π(x') + log q(x|x')] − [log π(x) + log q(x'|x)] of the Langevin
  kernel in unnormalised exponent form (the normalisers cancel in every dimension), and it is
  antisymmetric under exchange of x and x'; the log acceptance ratio that `hmc` computes is the energy
  difference H(x,p) − H(x',−p') along the leapfrog trajectory, antisymmetric under the involution
  (leapfrogⁿ then flip), and 0 when the integrator conserves H; over ℝ both give detailed balance of
  `min(1, exp(log alpha))` with respect to π·q resp. exp(−H).
* (`Proofs/McmcInvariance.lean`) on every FINITE state set the kernel `mh` realises —
  accepted proposals off the diagonal, the rejection mass on the diagonal because a rejected move
  returns the input — has unit row sums, inherits detailed balance from its off-diagonal part and
  therefore leaves the target invariant after any number of steps; instantiated for the textbook MH
  kernel with non-negative (not only positive) masses and for `mh` on Cond-free GFI programs.
What stays cited mathematics, not formalised: that the Langevin proposal x + (ε²/2)∇ + ε·N(0,I) HAS the
Gaussian density exp(−|y − x − (ε²/2)∇|²/(2ε²))/(ε√(2π))ⁿ (the Gaussian density formula; C13 proves the
normal density normalised), that leapfrog preserves phase-space volume (each sub-step is a shear), and
the passage from detailed balance of densities to invariance of the posterior measure on CONTINUOUS
state spaces (the finite case is proved in the last section).
That the proposal actually drawn and the ratio actually applied are those of the model is established per
(state, noise, threshold) by the correspondence run with scripted internal randomness (driver commands
`mala-alpha`, `hmc-alpha` on quadratic targets), and given C03/C04 the model weights are the density ratios.
-/
namespace Genjax.Mcmc
variable {K : Type} [Field K] [LinearOrder K] [IsStrictOrderedRing K]

/-- detailed balance of the MH acceptance probability min(1, b/a) -/
theorem C09_mh_detailed_balance (a b : K) (ha : 0 < a) (hb : 0 < b) :
    a * min 1 (b / a) = b * min 1 (a / b) := mh_detailed_balance a b ha hb

/-- the code's test is exactly "log u below both 0 and the log ratio" -/
theorem C09_accept_rule (logU logW : K) :
    accept logU logW = true ↔ (logU < logW ∧ logU < 0) := accept_iff logU logW

/-- a rejected move returns the input trace unchanged, an accepted one the proposal -/
theorem C09_reject_returns_input {σ : Type} (p c : σ) :
    select false p c = c ∧ select true p c = p := ⟨rfl, rfl⟩

/-- HMC's proposal map (n leapfrog steps, then momentum flip) is an involution for every force
    field, step size, step count and dimension -/
theorem C09_leapfrog_flip_involution_partial (g : List K → List K)
    (hg : ∀ x, (g x).length = x.length) (eps : K) (n : Nat) (x p : List K)
    (hl : x.length = p.length) :
    flip (leapfrogN g eps n (flip (leapfrogN g eps n (x, p)))) = (x, p) :=
  leapfrogN_flip_involutive (DimPres_of_forall hg _) eps n (WS.wsd (s := (x, p)) hl)

/-! ## The log acceptance ratios `mala` and `hmc` compute (`Model/McmcKernels.lean`)

`c` is the Gaussian normaliser log(σ√(2π)) kept abstract; `shape` the list of leaf sizes of the selected
choice tree (the code sums per leaf, then over leaves); `logp` / `grad` the target's log density and
gradient as functions of the selected coordinates; `DimPres d grad` says `grad` maps ℝᵈ to ℝᵈ. -/

/-- the code's two-level sum (jnp.sum per leaf, tree_reduce over leaves) is the sum over all coordinates
    whenever the leaf sizes add up to the dimension -/
theorem C09_kernels_leaf_sum (shape : List Nat) (v : List K) (h : shape.sum = v.length) :
    treeSum shape v = vsum v := treeSum_eq_vsum shape v h

/-- `mala`: for ANY pair (x, x') the quantity model_weight + backward − forward that the code forms is
    the log MH ratio of the Langevin kernel written with unnormalised Gaussian exponents -/
theorem C09_mala_ratio_is_mh_ratio (c eps : K) (he : eps ≠ 0) (shape : List Nat) (logp : List K → K)
    (grad : List K → List K) (x x' : List K) (hgrad : DimPres x.length grad)
    (hx : x'.length = x.length) (hs : shape.sum = x.length) :
    malaLogRatio c eps shape logp grad x x'
      = (logp x' + langevinLogQ eps x' (grad x') x) - (logp x + langevinLogQ eps x (grad x) x') := by
  -- `he` is not used: with `x / 0 = 0` the sums of log densities are exponent − n·c at `eps = 0` too
  simp only [malaLogRatio]
  rw [malaLogProb_eq c eps shape x x' (grad x) hx (hgrad x rfl) hs,
    malaLogProb_eq c eps shape x' x (grad x') hx.symm ((hgrad x' hx).trans hx.symm)
      (hs.trans hx.symm), hx]
  ring

/-- `mala`: the log alpha of the step made from the noise actually drawn is that MH ratio at the
    Langevin proposal x' = x + (ε²/2)∇(x) + ε·noise -/
theorem C09_mala_alpha_is_mh_ratio (c eps : K) (he : eps ≠ 0) (shape : List Nat) (logp : List K → K)
    (grad : List K → List K) (x noise : List K) (hgrad : DimPres x.length grad)
    (hn : noise.length = x.length) (hs : shape.sum = x.length) :
    malaLogAlpha c eps shape logp grad x noise
      = (logp (malaPropose eps x (grad x) noise)
            + langevinLogQ eps (malaPropose eps x (grad x) noise)
                (grad (malaPropose eps x (grad x) noise)) x)
        - (logp x + langevinLogQ eps x (grad x) (malaPropose eps x (grad x) noise)) :=
  C09_mala_ratio_is_mh_ratio c eps he shape logp grad x _ hgrad
    (length_malaPropose eps rfl (hgrad x rfl) hn) hs

/-- `mala`: the Gaussian normaliser cancels — log alpha does not depend on `c`, in every dimension -/
theorem C09_mala_normaliser_cancels (c c' eps : K) (he : eps ≠ 0) (shape : List Nat)
    (logp : List K → K) (grad : List K → List K) (x noise : List K)
    (hgrad : DimPres x.length grad) (hn : noise.length = x.length) (hs : shape.sum = x.length) :
    malaLogAlpha c eps shape logp grad x noise = malaLogAlpha c' eps shape logp grad x noise := by
  rw [C09_mala_alpha_is_mh_ratio c eps he shape logp grad x noise hgrad hn hs,
    C09_mala_alpha_is_mh_ratio c' eps he shape logp grad x noise hgrad hn hs]

/-- `mala`: exchanging x and x' negates the log ratio (antisymmetry of the log MH ratio) -/
theorem C09_mala_reverse_symmetric (c eps : K) (shape : List Nat) (logp : List K → K)
    (grad : List K → List K) (x x' : List K) :
    malaLogRatio c eps shape logp grad x' x = -malaLogRatio c eps shape logp grad x x' :=
  mala_reverse_symmetric c eps shape logp grad x x'

/-- HMC's proposal map is an involution on ℝᵈ × ℝᵈ for a force field that is only required to map ℝᵈ to
    ℝᵈ; `C09_leapfrog_flip_involution_partial` (which asks `(g x).length = x.length` for lists of
    every length) is the special case. -/
theorem C09_hmc_leapfrog_flip_involution (d : Nat) (g : List K → List K) (hg : DimPres d g) (eps : K)
    (n : Nat) (x p : List K) (hx : x.length = d) (hp : p.length = d) :
    flip (leapfrogN g eps n (flip (leapfrogN g eps n (x, p)))) = (x, p) :=
  leapfrogN_flip_involutive hg eps n (s := (x, p)) ⟨hx, hp⟩

/-- `hmc`: log alpha = (log π(x') − ½|p'|²) − (log π(x) − ½|p|²) with (x', p') the end of the leapfrog
    trajectory; the normalisers of the momentum density cancel -/
theorem C09_hmc_alpha_is_energy_difference (c eps : K) (n : Nat) (shape : List Nat)
    (logp : List K → K) (grad : List K → List K) (x p : List K) (hgrad : DimPres x.length grad)
    (hl : p.length = x.length) (hs : shape.sum = x.length) :
    hmcLogAlpha c eps n shape logp grad x p
      = (logp (leapfrogN grad eps n (x, p)).1 - kinetic (leapfrogN grad eps n (x, p)).2)
        - (logp x - kinetic p) := by
  rw [hmc_alpha_eq_energy c eps n shape logp grad x p hgrad hl hs, energy_flip]
  simp only [energy]
  ring

/-- `hmc`: run from the proposed point (x*, p*) = flip (leapfrogⁿ (x, p)) the kernel proposes (x, p)
    back and computes the negated log alpha (H(x',−p') − H(x,p) on the reversed trajectory) -/
theorem C09_hmc_reverse_symmetric (c eps : K) (n : Nat) (shape : List Nat) (logp : List K → K)
    (grad : List K → List K) (x p : List K) (hgrad : DimPres x.length grad)
    (hl : p.length = x.length) (hs : shape.sum = x.length) :
    hmcStep c eps n shape logp grad (flip (leapfrogN grad eps n (x, p))).1
        (flip (leapfrogN grad eps n (x, p))).2
      = ((x, p), -hmcLogAlpha c eps n shape logp grad x p) := by
  have hws : WSd x.length (flip (leapfrogN grad eps n (x, p))) :=
    WSd_flip (WSd_leapfrogN hgrad eps n (s := (x, p)) ⟨rfl, hl⟩)
  unfold hmcStep
  rw [hmc_alpha_eq_energy c eps n shape logp grad _ _ (hws.1.symm ▸ hgrad) (hws.2.trans hws.1.symm)
      (hs.trans hws.1.symm),
    hmc_alpha_eq_energy c eps n shape logp grad x p hgrad hl hs, Prod.mk.eta,
    leapfrogN_flip_involutive hgrad eps n (s := (x, p)) ⟨rfl, hl⟩, neg_sub]

/-- `hmc`: if the integrator conserves the Hamiltonian along the run, log alpha = 0 (always accept) -/
theorem C09_hmc_exact_for_constant_energy (c eps : K) (n : Nat) (shape : List Nat)
    (logp : List K → K) (grad : List K → List K) (x p : List K) (hgrad : DimPres x.length grad)
    (hl : p.length = x.length) (hs : shape.sum = x.length)
    (hH : energy logp (leapfrogN grad eps n (x, p)) = energy logp (x, p)) :
    hmcLogAlpha c eps n shape logp grad x p = 0 := by
  rw [hmc_alpha_eq_energy c eps n shape logp grad x p hgrad hl hs, energy_flip, hH, sub_self]

/-- the driver's quadratic targets satisfy the dimension hypothesis of the theorems above -/
theorem C09_kernels_quadratic_target_dim (A : List (List K)) (b : List K) (d : Nat)
    (hA : A.length = d) (hb : b.length = d) : DimPres d (quadGrad A b) := fun _ _ =>
  length_vadd_eq hb ((length_vneg _).trans ((List.length_map _).trans hA))

/-! ### over ℝ: detailed balance of the accept probability min(1, exp(log alpha)) -/

/-- MH detailed balance in log form: with `a`, `b` the log flows of a move and of its reverse, and the
    accept probabilities `min(1, exp(±(b − a)))` -/
theorem mh_detailed_balance_log (a b : ℝ) :
    Real.exp a * min 1 (Real.exp (b - a)) = Real.exp b * min 1 (Real.exp (-(b - a))) := by
  rw [neg_sub, Real.exp_sub, Real.exp_sub]
  exact mh_detailed_balance _ _ (Real.exp_pos a) (Real.exp_pos b)

/-- `mala`: π(x) q(x'|x) min(1, e^{α(x→x')}) = π(x') q(x|x') min(1, e^{α(x'→x)}), q the unnormalised
    Langevin Gaussian kernel, α the log alpha the code computes -/
theorem C09_mala_detailed_balance (c eps : ℝ) (he : eps ≠ 0) (shape : List Nat)
    (logp : List ℝ → ℝ) (grad : List ℝ → List ℝ) (x x' : List ℝ) (hgrad : DimPres x.length grad)
    (hx : x'.length = x.length) (hs : shape.sum = x.length) :
    Real.exp (logp x + langevinLogQ eps x (grad x) x')
        * min 1 (Real.exp (malaLogRatio c eps shape logp grad x x'))
      = Real.exp (logp x' + langevinLogQ eps x' (grad x') x)
        * min 1 (Real.exp (malaLogRatio c eps shape logp grad x' x)) := by
  rw [C09_mala_reverse_symmetric c eps shape logp grad x x',
    C09_mala_ratio_is_mh_ratio c eps he shape logp grad x x' hgrad hx hs]
  exact mh_detailed_balance_log _ _

/-- `hmc`: e^{−H(s)} min(1, e^{α(s)}) = e^{−H(s*)} min(1, e^{α(s*)}) for s* = flip (leapfrogⁿ s) -/
theorem C09_hmc_detailed_balance (c eps : ℝ) (n : Nat) (shape : List Nat) (logp : List ℝ → ℝ)
    (grad : List ℝ → List ℝ) (x p : List ℝ) (hgrad : DimPres x.length grad)
    (hl : p.length = x.length) (hs : shape.sum = x.length) :
    Real.exp (-energy logp (x, p)) * min 1 (Real.exp (hmcLogAlpha c eps n shape logp grad x p))
      = Real.exp (-energy logp (flip (leapfrogN grad eps n (x, p))))
        * min 1 (Real.exp (hmcLogAlpha c eps n shape logp grad
            (flip (leapfrogN grad eps n (x, p))).1 (flip (leapfrogN grad eps n (x, p))).2)) := by
  have hrev : hmcLogAlpha c eps n shape logp grad (flip (leapfrogN grad eps n (x, p))).1
      (flip (leapfrogN grad eps n (x, p))).2 = -hmcLogAlpha c eps n shape logp grad x p :=
    congrArg Prod.snd (C09_hmc_reverse_symmetric c eps n shape logp grad x p hgrad hl hs)
  -- the log flows are −H(s) and −H(s*), and log alpha = H(s) − H(s*) = −H(s*) − (−H(s))
  rw [hrev, hmc_alpha_eq_energy c eps n shape logp grad x p hgrad hl hs, ← neg_sub_neg]
  exact mh_detailed_balance_log _ _

/-! ### non-vacuity: the hypotheses hold and the quantities are non-trivial on concrete instances (ℚ) -/

/-- the 2-d quadratic target −½(x₀² + 2x₁²) of the driver smoke test: hypotheses of the mala theorems -/
example : (1/2 : ℚ) ≠ 0 ∧ DimPres ([1, -1/2] : List ℚ).length (quadGrad ([[1, 0], [0, 2]] : List (List ℚ)) [0, 0])
    ∧ ([1/4, -3/4] : List ℚ).length = ([1, -1/2] : List ℚ).length
    ∧ ([1, 1] : List Nat).sum = ([1, -1/2] : List ℚ).length :=
  ⟨by norm_num, C09_kernels_quadratic_target_dim _ _ 2 rfl rfl, rfl, rfl⟩

/-- … and there the log alpha is a non-zero number that does not depend on the normaliser -/
example : malaLogAlpha (7/3 : ℚ) (1/2) [1, 1] (quadLogp 0 [[1, 0], [0, 2]] [0, 0])
      (quadGrad [[1, 0], [0, 2]] [0, 0]) [1, -1/2] [1/4, -3/4] = -5/128
    ∧ malaLogAlpha (0 : ℚ) (1/2) [2] (quadLogp 0 [[1, 0], [0, 2]] [0, 0])
      (quadGrad [[1, 0], [0, 2]] [0, 0]) [1, -1/2] [1/4, -3/4] = -5/128 := by
  decide +kernel

/-- hmc on the harmonic oscillator log π = −½x², ε = 2, from (x, p) = (1, 1): one leapfrog step lands on
    (1, −1) with the same energy, so `C09_hmc_exact_for_constant_energy` applies non-trivially … -/
example : energy (quadLogp (0 : ℚ) [[1]] [0]) (leapfrogN (quadGrad [[1]] [0]) 2 1 ([1], [1]))
      = energy (quadLogp (0 : ℚ) [[1]] [0]) ([1], [1])
    ∧ leapfrogN (quadGrad [[1]] [0]) (2 : ℚ) 1 ([1], [1]) = ([1], [-1]) := by
  decide +kernel

/-- … while from (1, 1/2) with ε = 1/4, 3 steps, the energy error is non-zero and log alpha with it -/
example : hmcLogAlpha (5 : ℚ) (1/4) 3 [1] (quadLogp 0 [[1]] [0]) (quadGrad [[1]] [0]) [1] [1/2]
    ≠ 0 := by
  decide +kernel

end Genjax.Mcmc

/-! ## `mh` on generative-function programs in a PROBABILISTIC semantics
    (model `Model/GfiRegenDist.lean`; proofs `Proofs/GfiRegenAssess.lean`, `GfiRegenLaw.lean`,
    `GfiRegenTie.lean`, `GfiRegenMH.lean`).

    `GF.regenerateD e pd P cfg g t s args` is `GF.regenerate` with every SELECTED Distribution site
    drawing from the finite-support distribution `pd` (outcomes: (new trace, weight, discard) or "the
    code raised"), the weight in the LINEAR domain: where the code adds `lp + old_score` the model
    multiplies `pm * e old_score` (`e : R → K` reads a stored log-domain score; the law and the
    detailed-balance theorems ask of it only `hinv`: `e (-(lp)) * pm = 1` where `pm ≠ 0`, "e of the
    stored score is the reciprocal mass"; the tie asks `e 0 = 1`, `e (a + b) = e a * e b`).
    `E d φ` is the exact expectation, `optK φ` extends `φ` by 0 to "raised".
    `GF.assessS pd g x s args = some ((A, B), r)` splits the joint density `assessP` of `x` along the
    selection: `A` = product of the masses of the selected sites (`selMass`), `B` = product of the
    masses of the unselected ones (`unselMass`), `pmassOf (assessP x) = A * B`.
    `CM.eqOff s x x'`: same shape, equal values at every address the selection does not select.
    Scope: Cond-free programs (Distribution, Fn, Vmap, Scan at any depth), repaired Scan
    (`cfg.scanRegenDefined`).  Not done: programs with Cond.  The diagonal (rejection) part of the
    kernel and invariance `Σ_x π(x) K(x → x') = π(x')` over a finite set of choice maps come in the
    last section (`C09_mh_gfi_invariant_partial`). -/
namespace Genjax
open Smc Smc.FinDist

section C09Gfi
variable {K : Type} [Field K]

/-- TIE of `regenerateD` to the executable `GF.regenerate`: when every primitive has the one-point
    support `[P.draw d a]` and the masses are the exponentials of the log densities, `regenerateD`
    has a single outcome: what `GF.regenerate` returns (same trace and discard, or "raises" when it
    raises) with the weight pushed through the exponential — EVERY program (Cond included), every
    `cfg`. -/
theorem C09_regenerateD_point {R : Type} [Zero R] [Add R] [Neg R] (e : R → K) (he0 : e 0 = 1)
    (hadd : ∀ a b, e (a + b) = e a * e b) (pd : PD K) (P : Prims R) (cfg : Cfg)
    (hsupp : ∀ d a, pd.support d a = [P.draw d a]) (hpm : ∀ d a v, pd.pm d a v = e (P.lp d a v))
    (g : GF) (t : Tr R) (s : Sel) (args : List Val) :
    ∃ q, g.regenerateD e pd P cfg t s args
      = [((g.regenerate P cfg t s args).map fun r => (r.1, e r.2.1, r.2.2), q)] :=
  regenerateD_point e he0 hadd pd P cfg hsupp hpm g t s args

/-- non-vacuity of the tie: integer log densities base 2 (`he0`, `hadd`; together with `hsupp`,
    `hpm`: the example at the end of `Proofs/GfiRegenTie.lean`) -/
example : ∃ e : ℤ → ℚ, e 0 = 1 ∧ ∀ a b, e (a + b) = e a * e b :=
  ⟨fun n => (2 : ℚ) ^ n, by simp, fun a b => zpow_add₀ (by norm_num) a b⟩

/-- THE LAW of `regenerate` (`_partial`: Cond-free): for every old trace `t` whatsoever, selection,
    (new) arguments, every choice map `x'` of the program's static shape and every function `Φ` of
    (return value, weight): `E[1{new choices = x'} · Φ(retval, weight)] = q · Φ(r, W)` where
    `((q, W), r) = regenW t s x'` is the executable kernel specification (0 when it is `none`). -/
theorem C09_regenD_law_partial {R : Type} [Zero R] [Add R] [Neg R] (e : R → K) (pd : PD K)
    (P : Prims R) (cfg : Cfg) (hpd : pd.WF) (g : GF) (hcf : g.condFree = true) (t : Tr R) (s : Sel)
    (args : List Val) (x' : CM) (Φ : Val → K → K) (hs : g.skel = some x'.skel) :
    E (g.regenerateD e pd P cfg t s args) (optK (chW x' Φ))
      = massOf2 (g.regenW e pd cfg t s x' args) Φ :=
  regenD_law e pd P cfg hpd g hcf t s args x' Φ hs

variable {R : Type} [AddCommGroup R] (e : R → K) (pd : PD K) (P : Prims R) (cfg : Cfg)

/-- THE PROPOSAL LAW (`_partial`: Cond-free).  `t`: a coherent trace in the shape the operations
    build, with choices `x`; `x'` any choice map of the program's shape.  The probability that
    `regenerate` proposes `x'` is `q(x → x')` = the product over the SELECTED sites of the mass of
    the value `x'` holds there (parameters computed from `x'`) when `x'` agrees with `x` off the
    selection, and 0 when it differs at an unselected address.  (`a`: the arguments `t` was built
    under; `args`: the arguments of the regenerate call — they may differ.) -/
theorem C09_regenD_proposal_law_partial (hpd : pd.WF) (hsr : cfg.scanRegenDefined = true) (g : GF)
    (hcf : g.condFree = true) (t : Tr R) (a : List Val) (s : Sel) (x x' : CM) (args : List Val)
    (hc : g.Coh P a t) (hcan : g.Canon t) (hx : t.choices = some x) (hs' : g.skel = some x'.skel) :
    E (g.regenerateD e pd P cfg t s args) (optK fun r => if r.1.choices = some x' then 1 else 0)
      = if CM.eqOff s x x' then selMass pd g x' s args else 0 :=
  regenD_proposal_law e pd P cfg hpd hsr g hcf t a s x x' args hc hx
    (skel_of_canon_choices P g a t hcan hc hx) hs'

/-- THE WEIGHT IS THE MH RATIO (`_partial`: Cond-free, unchanged arguments), cross-multiplied so
    that nothing is divided by zero: whenever the kernel reaches `x'` from `t` (choices `x`, whose
    unselected sites have non-zero mass) with proposal mass `q` and weight `W` — by
    `C09_regenD_law_partial` these ARE the probability of proposing `x'` and the weight reported on
    that event — then `x'` agrees with `x` off the selection, `q = q(x → x')`, and
    `W · π(x) · q(x → x') = π(x') · q(x' → x)`. -/
theorem C09_regenD_weight_partial
    (hinv : ∀ d a v, pd.pm d a v ≠ 0 → e (-(P.lp d a v)) * pd.pm d a v = 1)
    (hsr : cfg.scanRegenDefined = true) (g : GF) (hcf : g.condFree = true)
    (t : Tr R) (s : Sel) (x x' : CM) (args : List Val)
    (hc : g.Coh P args t) (hcan : g.Canon t) (hx : t.choices = some x)
    (hs' : g.skel = some x'.skel) (hne : unselMass pd g x s args ≠ 0)
    (q W : K) (r : Val) (h : g.regenW e pd cfg t s x' args = some ((q, W), r)) :
    CM.eqOff s x x' = true ∧ q = selMass pd g x' s args ∧
    W * pmassOf (g.assessP pd x args) * q
      = pmassOf (g.assessP pd x' args) * selMass pd g x s args :=
  regenW_mh_ratio e pd P cfg hinv hsr g hcf t s x x' args hc hx
    (skel_of_canon_choices P g args t hcan hc hx) hs' hne q W r h

end C09Gfi

section C09GfiDB
variable {K : Type} [Field K] [LinearOrder K] [IsStrictOrderedRing K] {R : Type} [AddCommGroup R]
variable (e : R → K) (pd : PD K) (P : Prims R) (cfg : Cfg)

/-- DETAILED BALANCE of `mh(trace, selection)` with respect to the program's joint density
    (`_partial`: Cond-free programs, unchanged arguments; off-diagonal part of the kernel).
    For any two coherent traces `t`, `t'` of the program (in the shape the operations build) with
    choice maps `x`, `x'`:
        `π(x) · K(x → x') = π(x') · K(x' → x)`,
    `π = assessP` mass, `K(x → x') = mhAcc … t … x' = E[1{regenerate proposes x'} · min(1, w)]`
    `= q(x → x') · min(1, w(x → x'))` — the statement `π(x) q(x→x') α(x→x') = π(x') q(x'→x) α(x'→x)`
    of the property, about the probabilities and the weight `regenerateD` really produces.
    Hypotheses on the primitives: `pd.WF` (support listed once, mass 0 outside), masses `≥ 0`,
    `hinv` (a stored score is the log of the reciprocal mass).  No positivity assumption on `π`.
    What is missing for the full strength of the property: programs with Cond.  The rejection mass
    on the diagonal and the passage to invariance `Σ_x π(x) K(x → x') = π(x')` are
    `C09_mh_gfi_invariant_partial`. -/
theorem C09_mh_gfi_detailed_balance_partial (hpd : pd.WF) (hpos : ∀ d a v, 0 ≤ pd.pm d a v)
    (hinv : ∀ d a v, pd.pm d a v ≠ 0 → e (-(P.lp d a v)) * pd.pm d a v = 1)
    (hsr : cfg.scanRegenDefined = true) (g : GF) (hcf : g.condFree = true) (s : Sel)
    (args : List Val) (t t' : Tr R) (x x' : CM)
    (hc : g.Coh P args t) (hc' : g.Coh P args t') (hcan : g.Canon t) (hcan' : g.Canon t')
    (hx : t.choices = some x) (hx' : t'.choices = some x') :
    pmassOf (g.assessP pd x args) * mhAcc e pd P cfg g t s args x'
      = pmassOf (g.assessP pd x' args) * mhAcc e pd P cfg g t' s args x :=
  mh_gfi_detailed_balance e pd P cfg hpd hpos hinv hsr g hcf s args t t' x x' hc hc' hx hx'
    (skel_of_canon_choices P g args t hcan hc hx) (skel_of_canon_choices P g args t' hcan' hc' hx')

end C09GfiDB

/-! ### non-vacuity (exact rationals; `mhExPD`: one primitive on {0,1,2,3} with masses
    1/2, 1/4, 1/8, 1/8, reversed when its parameter is non-zero; scores = integer logs base 2) -/

/-- the hypotheses on the primitives hold -/
example : mhExPD.WF ∧ (∀ d a v, 0 ≤ mhExPD.pm d a v) ∧
    (∀ d a v, mhExPD.pm d a v ≠ 0 → mhExE (-(mhExP.lp d a v)) * mhExPD.pm d a v = 1) :=
  ⟨mhExPD_wf, mhExPD_nonneg, mhEx_inv⟩

/-- the hypotheses on the traces hold for the traces `generate` builds from the two choice maps of
    the next example (coherent, canonical, with those choice maps) -/
example : ∃ tw tw' : Tr ℤ × ℤ,
    mhExG.generate mhExP Cfg.spec (some (mhExX 0 1)) [.num 0] = some tw ∧
    mhExG.generate mhExP Cfg.spec (some (mhExX 3 1)) [.num 0] = some tw' ∧
    mhExG.Coh mhExP [.num 0] tw.1 ∧ mhExG.Coh mhExP [.num 0] tw'.1 ∧
    mhExG.Canon tw.1 ∧ mhExG.Canon tw'.1 ∧
    tw.1.choices = some (mhExX 0 1) ∧ tw'.1.choices = some (mhExX 3 1) ∧
    mhExG.condFree = true := by
  refine ⟨_, _, rfl, rfl, ?_, ?_, ?_, ?_, rfl, rfl, rfl⟩
  · exact generate_coh mhExP Cfg.spec mhExG (some (mhExX 0 1)) [.num 0] _ _ rfl
  · exact generate_coh mhExP Cfg.spec mhExG (some (mhExX 3 1)) [.num 0] _ _ rfl
  · exact generate_canon mhExP Cfg.spec mhExG (some (mhExX 0 1)) [.num 0] _ _ rfl
  · exact generate_canon mhExP Cfg.spec mhExG (some (mhExX 3 1)) [.num 0] _ _ rfl

/-- two sites `x ~ D(0); y ~ D(x)`, selection `"x"`, from `{x: 0, y: 1}` to `{x: 3, y: 1}`: the
    unselected `y` keeps its value but its parameter changes, so the weight is not 1:
    `π(x) = 1/2·1/4`, `q(x→x') = 1/8`, `w = (1/8)/(1/4) = 1/2`; `π(x') = 1/8·1/8`, `q(x'→x) = 1/2`,
    `w' = 2`.  Both sides of detailed balance, computed through `regenerateD`: `1/128`. -/
example : mhDbSides mhExE mhExPD mhExP Cfg.spec mhExG (.str "x") [.num 0] (mhExX 0 1) (mhExX 3 1)
    = some (1/128, 1/128) := by decide +kernel

/-- a Scan whose step draws `a ~ D(carry); b ~ D(a)` and carries `b`; selection `"a"` (the `a` of
    every step is resampled, the `b`s are kept but their parameters change): both sides computed -/
example : mhDbSides mhExE mhExPD mhExP Cfg.spec mhExScan (.str "a") mhExScanArgs
    (mhExScanX 0 1 2 0) (mhExScanX 3 1 0 0) = some (1/16384, 1/16384) := by decide +kernel

/-- … and a pair that differs at an unselected address has kernel mass 0 in both directions -/
example : mhDbSides mhExE mhExPD mhExP Cfg.spec mhExG (.str "x") [.num 0] (mhExX 0 1) (mhExX 3 2)
    = some (0, 0) := by decide +kernel

end Genjax

/-! ## From detailed balance to the invariant distribution, with the rejection mass on the
    diagonal — every finite state set (`Proofs/McmcInvariance.lean`) -/
namespace Genjax.Mcmc
open Finset

section C09Inv
variable {K : Type} [Field K] {σ : Type} [DecidableEq σ]

/-- the kernel of "propose-and-accept, else return the input" has rows summing to 1 -/
theorem C09_rejection_kernel_row_sum (S : Finset σ) (A : σ → σ → K) (x : σ) (hx : x ∈ S) :
    ∑ y ∈ S, withRejection S A x y = 1 := withRejection_row_sum S A x hx

/-- detailed balance + unit row sums ⇒ `Σ_x π x · P x y = π y` -/
theorem C09_reversible_invariant (S : Finset σ) (P : σ → σ → K) (π : σ → K)
    (hrev : ∀ x ∈ S, ∀ y ∈ S, π x * P x y = π y * P y x) (hrow : ∀ x ∈ S, ∑ y ∈ S, P x y = 1)
    (y : σ) (hy : y ∈ S) : pushK S P π y = π y := invariant_of_reversible S P π hrev hrow y hy

/-- INVARIANCE for any kernel of the `mh` form: if the accepted-proposal part `A` is in detailed balance
    with `π` off the diagonal then `π` is unchanged by any number `n` of steps of the completed kernel -/
theorem C09_rejection_kernel_invariant (S : Finset σ) (A : σ → σ → K) (π : σ → K)
    (hA : ∀ x ∈ S, ∀ y ∈ S, x ≠ y → π x * A x y = π y * A y x) (n : Nat) (y : σ) (hy : y ∈ S) :
    (pushK S (withRejection S A))^[n] π y = π y := withRejection_invariant S A π hA n y hy

end C09Inv

section C09InvMH
variable {K : Type} [Field K] [LinearOrder K] [IsStrictOrderedRing K] {σ : Type} [DecidableEq σ]

/-- the MH accept probability balances for NON-NEGATIVE masses (zero-mass states included) -/
theorem C09_mh_detailed_balance_nonneg (a b : K) (ha : 0 ≤ a) (hb : 0 ≤ b) :
    a * min 1 (b / a) = b * min 1 (a / b) := mh_detailed_balance_nonneg a b ha hb

/-- the full Metropolis–Hastings kernel (any target `π ≥ 0`, any proposal `q ≥ 0`, any finite state set):
    a stochastic matrix, reversible, with `π` invariant after any number of steps -/
theorem C09_mh_kernel_invariant (S : Finset σ) (π : σ → K) (q : σ → σ → K) (hπ : ∀ x, 0 ≤ π x)
    (hq : ∀ x y, 0 ≤ q x y) :
    (∀ x ∈ S, ∑ y ∈ S, mhKernel S π q x y = 1) ∧
    (∀ x ∈ S, ∀ y ∈ S, π x * mhKernel S π q x y = π y * mhKernel S π q y x) ∧
    ((∀ x ∈ S, ∑ y ∈ S, q x y ≤ 1) → ∀ x ∈ S, ∀ y, 0 ≤ mhKernel S π q x y) ∧
    (∀ n : Nat, ∀ y ∈ S, (pushK S (mhKernel S π q))^[n] π y = π y) :=
  ⟨fun x hx => mhKernel_row_sum S π q x hx,
   fun x hx y hy => mhKernel_reversible S π q hπ hq x y hx hy,
   fun hrow x hx y => mhKernel_nonneg S π q hπ hq hrow x y hx,
   fun n y hy => mhKernel_invariant S π q hπ hq n y hy⟩

/-- non-vacuity: 3 states, target (1/2, 1/3, 1/6), proposal "uniform over the other two" — one step of the
    completed kernel from the target returns the target, computed -/
example : (List.range 3).map (fun y => pushK (Finset.range 3)
      (mhKernel (Finset.range 3) (fun x => if x = 0 then (1/2 : ℚ) else if x = 1 then 1/3 else 1/6)
        (fun x y => if x = y then 0 else 1/2))
      (fun x => if x = 0 then (1/2 : ℚ) else if x = 1 then 1/3 else 1/6) y) = [1/2, 1/3, 1/6] := by
  decide +kernel

end C09InvMH
end Genjax.Mcmc

namespace Genjax
open Smc Smc.FinDist Mcmc

section C09GfiInv
variable {K : Type} [Field K] [LinearOrder K] [IsStrictOrderedRing K] {R : Type} [AddCommGroup R]
variable (e : R → K) (pd : PD K) (P : Prims R) (cfg : Cfg) [DecidableEq CM]

/-- INVARIANCE of `mh(trace, selection)` on a generative-function program (`_partial`: Cond-free,
    unchanged arguments): for every finite set `S` of choice maps, each carried by a coherent trace
    `tr x` in the shape the operations build, the kernel whose off-diagonal entries are the
    accepted-proposal masses `mhAcc … (tr x) … x'` that `regenerateD` really produces, completed by the
    rejection mass (a rejected `mh` returns the input trace), leaves the program's joint density
    `assessP` invariant on `S` after any number of steps.  What is missing for the full strength of
    the property: programs with Cond; that `S` is closed under the proposal (then the completed kernel
    on `S` is the whole kernel) is a hypothesis the user of the theorem supplies by taking `S` = all
    choice maps of the program's shape over the primitives' finite supports. -/
theorem C09_mh_gfi_invariant_partial (hpd : pd.WF) (hpos : ∀ d a v, 0 ≤ pd.pm d a v)
    (hinv : ∀ d a v, pd.pm d a v ≠ 0 → e (-(P.lp d a v)) * pd.pm d a v = 1)
    (hsr : cfg.scanRegenDefined = true) (g : GF) (hcf : g.condFree = true) (s : Sel)
    (args : List Val) (S : Finset CM) (tr : CM → Tr R)
    (htr : ∀ x ∈ S, g.Coh P args (tr x) ∧ g.Canon (tr x) ∧ (tr x).choices = some x)
    (n : Nat) (y : CM) (hy : y ∈ S) :
    (pushK S (withRejection S fun x x' => mhAcc e pd P cfg g (tr x) s args x'))^[n]
        (fun x => pmassOf (g.assessP pd x args)) y
      = pmassOf (g.assessP pd y args) := by
  apply withRejection_invariant S _ (fun x => pmassOf (g.assessP pd x args))
  · intro x hx x' hx' _
    obtain ⟨hc, hcan, hch⟩ := htr x hx
    obtain ⟨hc', hcan', hch'⟩ := htr x' hx'
    exact C09_mh_gfi_detailed_balance_partial e pd P cfg hpd hpos hinv hsr g hcf s args (tr x) (tr x')
      x x' hc hc' hcan hcan' hch hch'
  · exact hy

end C09GfiInv
end Genjax

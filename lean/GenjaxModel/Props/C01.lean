import GenjaxModel.Proofs.GfiCohInv
import GenjaxModel.Proofs.GfiAssess
import GenjaxModel.Proofs.GfiAssessCond
import GenjaxModel.Proofs.GfiLawMain
import Mathlib.Algebra.Group.TypeTags.Basic  -- (`Additive ℚ` in a non-vacuity example)
/-!
# C01 — assess is the joint log density; simulate reports score = -assess(choices) and the same retval

Model: `Model/Gfi.lean` (`GF.simulate`, `GF.assess`, handlers `Body.simulate` / `Body.assess`,
Vmap/Scan/Cond).  `GF.assess` is *by construction* the sum of the site log densities `P.lp d params v`
with parameters computed from the values the site depends on, together with the body's return
expression; what needs proof is that every trace `simulate` can build reports exactly that.
Quantifiers: every program `g`, every argument list, every primitive family `P` (log density and
sampler arbitrary), every weight type that is an additive commutative group.

The second part of the file is the sampling half of the property ("the choices are distributed
according to that density") in the model with genuine randomness, `Model/GfiDist.lean`.
-/
namespace Genjax
variable {R : Type} [AddCommGroup R] (P : Prims R)

/-- Every trace built by `simulate` — any program, Cond/Vmap/Scan included — is structurally
    coherent: each stored score/retval is the one its own choices determine. -/
theorem C01_simulate_coherent (g : GF) (args : List Val) (t : Tr R)
    (h : g.simulate P args = some t) : g.Coh P args t := simulate_coh P g args t h

/-- A coherent trace reports `score = -assess(its choices)` and the same return value.
    `_partial`: stated for the choice map `x` the trace exposes; existence of `x` is
    `C01_simulate_choices_partial` (Cond-free programs).
    `C01_coherent_assess` below has no `condFree` hypothesis. -/
theorem C01_coherent_assess_partial (g : GF) (hg : g.condFree = true) (args : List Val) (t : Tr R)
    (h : g.Coh P args t) (x : CM) (hx : t.choices = some x) :
    g.assess P x args = some (-t.score, t.retval) := coh_assess P g args t h x hx

theorem C01_simulate_choices_partial (g : GF) (hg : g.condFree = true) (args : List Val) (t : Tr R)
    (h : g.simulate P args = some t) : ∃ x, t.choices = some x :=
  simulate_choices_some P g hg args t h

/-- The property's statement for Cond-free programs, end to end. -/
theorem C01_simulate_score_assess_partial (g : GF) (hg : g.condFree = true) (args : List Val)
    (t : Tr R) (h : g.simulate P args = some t) :
    ∃ x, t.choices = some x ∧ g.assess P x args = some (-t.score, t.retval) := by
  obtain ⟨x, hx⟩ := simulate_choices_some P g hg args t h
  exact ⟨x, hx, coh_assess P g args t (simulate_coh P g args t h) x hx⟩

/-- The unrestricted version of `C01_coherent_assess_partial` (no hypothesis on the choice map)
    is false: a coherent Fn trace may carry an unreferenced entry without a choice map. -/
theorem C01_coherent_assess_needs_choices :
    ∃ (g : GF) (args : List Val) (t : Tr R), g.condFree = true ∧ g.Coh P args t ∧
      ¬ ∃ x, t.choices = some x ∧ g.assess P x args = some (-t.score, t.retval) :=
  coh_assess_counterexample P

/-! ## Programs with Cond (the `_partial` theorems above without their `condFree` hypothesis)

`get_choices()` of a Cond trace merges the two branch maps leafwise by the check and
`Cond.assess` evaluates both branches on the merged map; `Proofs/GfiAssessCond.lean` shows that the
selected branch reads from the merged map exactly what it reads from its own map, and that the other
branch does not raise on it. -/

/-- A coherent trace reports `score = -assess(its choices)` and the same return value — EVERY
    program, Cond at any depth (inside Fn, Vmap, Scan, Cond of Cond).  Hypothesis `hx` is exactly
    "`get_choices()` does not raise" (see `C01_coherent_assess_needs_choices`, and
    `C01_simulate_choices_skel` for when it holds).
    (`C01_coherent_assess_partial` is the Cond-free case.) -/
theorem C01_coherent_assess (g : GF) (args : List Val) (t : Tr R)
    (h : g.Coh P args t) (x : CM) (hx : t.choices = some x) :
    g.assess P x args = some (-t.score, t.retval) := coh_assess P g args t h x hx

/-- The property's statement, end to end, for every program: whenever the simulated trace has a
    choice map, `assess` on it under the same arguments returns `(-score, retval)`.
    (`C01_simulate_score_assess_partial` is the Cond-free case.) -/
theorem C01_simulate_score_assess (g : GF) (args : List Val) (t : Tr R)
    (h : g.simulate P args = some t) (x : CM) (hx : t.choices = some x) :
    g.assess P x args = some (-t.score, t.retval) :=
  coh_assess P g args t (simulate_coh P g args t h) x hx

/-- When does the simulated trace have a choice map?  Its skeleton (leaf values forgotten) is the
    program's static skeleton `g.skel` — as partial values: `get_choices()` raises iff some Cond of
    the program has branches whose choice-map shapes do not merge (`g.skel = none`).
    (`C01_simulate_choices_partial` is the Cond-free case.) -/
theorem C01_simulate_choices_skel (g : GF) (args : List Val) (t : Tr R)
    (h : g.simulate P args = some t) : t.choices.map CM.skel = g.skel :=
  simulate_choices_skel P g args t h

/-- End to end without a hypothesis on the trace: programs whose Cond branches are compatible. -/
theorem C01_simulate_score_assess_compat (g : GF) (hs : g.skel.isSome) (args : List Val)
    (t : Tr R) (h : g.simulate P args = some t) :
    ∃ x, t.choices = some x ∧ g.assess P x args = some (-t.score, t.retval) := by
  obtain ⟨x, hx⟩ := choices_of_skel (simulate_choices_skel P g args t h) hs
  exact ⟨x, hx, C01_simulate_score_assess P g args t h x hx⟩

/-- … and incompatible branches make `get_choices()` raise on every simulated trace. -/
theorem C01_simulate_choices_raises (g : GF) (hs : g.skel = none) (args : List Val)
    (t : Tr R) (h : g.simulate P args = some t) : t.choices = none :=
  Option.map_eq_none_iff.mp ((simulate_choices_skel P g args t h).trans hs)

/-! Non-vacuity: a Cond whose two branches are Fn bodies sharing the address `"x"` (the false
    branch has a further address `"y"`), integer weights: `condExG`, `condExP` of
    `Proofs/GfiAssessCond.lean`. -/

/-- `simulate` succeeds and the trace has a (merged) choice map: `"x"` from the taken branch,
    `"y"` from the other one. -/
example : ∃ t, condExG.simulate condExP [.num 1, .num 7] = some t ∧
    t.choices = some (.node (.cons "x" (.leaf (.num 4)) (.cons "y" (.leaf (.num 8)) .nil))) :=
  ⟨_, rfl, rfl⟩

example : condExG.skel.isSome := rfl

/-- the conclusion of `C01_simulate_score_assess` on that instance, computed -/
example : ∃ t x, condExG.simulate condExP [.num 1, .num 7] = some t ∧ t.choices = some x ∧
    condExG.assess condExP x [.num 1, .num 7] = some (9, .num 4) ∧ t.score = -9 :=
  ⟨_, _, rfl, rfl, rfl, rfl⟩

/-- Cond at depth (`condExDeep`: a Fn calling a Scan of a Cond — the branch alternates from step to
    step — and a Vmap of a Cond of a Cond, lanes taking different branches): hypotheses and
    conclusion of `C01_simulate_score_assess` on a concrete instance -/
example : ∃ t x, condExDeep.simulate condExP condExDeepArgs = some t ∧ t.choices = some x ∧
    condExDeep.assess condExP x condExDeepArgs = some (-t.score, t.retval) :=
  (simulateAssessCheck_iff _ _ _).mp (by decide +kernel)

example : condExDeep.skel.isSome := rfl

/-- incompatible branches (a Distribution against a Fn): no skeleton, `get_choices()` raises -/
example : (GF.cond (.dist 0) (.fn (.ret (.const 0)))).skel = none := rfl

end Genjax

/-! # The law of `simulate`

  Model `Model/GfiDist.lean`; proofs `Proofs/GfiDistMonad.lean`, `Proofs/GfiLaw.lean`,
  `Proofs/GfiDistSupp.lean`, `Proofs/GfiLawMain.lean`.

  The second half of C01: "its choices are distributed according to that density (outcome by outcome
  for discrete programs)".  `GF.simD pd P g args` is `GF.simulate` with every Distribution site
  drawing from a finite-support distribution `pd` (a weighted list of outcomes, an outcome being a
  trace or "the code raised"), `GF.assessP pd g x args` is `GF.assess` in the linear domain (the
  PRODUCT of the site masses).  `E d φ` is the exact expectation `Σ p·φ(outcome)`; `optK φ` extends
  `φ` by 0 to the outcome "raised".  Hypotheses on the primitives: `pd.WF` (the support lists every
  value once, the mass vanishes outside it), `pd.Normalised` (total mass 1, needed only for Cond:
  the hidden branch's draws are marginalised out). -/
namespace Genjax
open Smc Smc.FinDist

section C01Law
variable {K : Type} [Field K]

/-- TIE of the distribution-valued model to the executable one: with the point-mass primitives of
    the probe sampler, `simD` IS `simulate` (same trace, or "raises" when `simulate` raises) —
    every program, every argument list. -/
theorem C01_simD_pointmass {R : Type} [Zero R] [Add R] [Neg R] (P : Prims R) (g : GF)
    (args : List Val) :
    g.simD (PD.ofDraw P : PD K) P args = FinDist.pure (g.simulate P args) :=
  simD_pointmass P g args

/-- TIE of `assessP` to `assess`: when the masses are the exponentials of the log densities
    (`e 0 = 1`, `e (a + b) = e a · e b`, `pm = e ∘ lp`), `assessP` is `assess` pushed through `e`:
    it raises exactly when `assess` raises, returns the same value, and the product of the masses is
    `e` of the sum of the log densities. -/
theorem C01_assessP_is_exp_assess {R : Type} [Zero R] [Add R] (e : R → K) (he0 : e 0 = 1)
    (hadd : ∀ a b, e (a + b) = e a * e b) (pd : PD K) (P : Prims R)
    (hpm : ∀ d a v, pd.pm d a v = e (P.lp d a v)) (g : GF) (x : CM) (args : List Val) :
    g.assessP pd x args = (g.assess P x args).map fun p => (e p.1, p.2) :=
  assessP_eq_exp_assess e he0 hadd pd P hpm g x args

/-- non-vacuity of the tie: integer log densities base 2, `e n = 2^n` -/
example : ∃ e : ℤ → ℚ, e 0 = 1 ∧ ∀ a b, e (a + b) = e a * e b :=
  ⟨fun n => (2 : ℚ) ^ n, by simp, fun a b => zpow_add₀ (by norm_num) a b⟩

/-- **THE LAW, Cond-free programs** (`_partial`; with Cond: `C01_simulate_law`, which needs
    normalisation and a condition on the Conds).  For every program built from Distribution, Fn,
    Vmap, Scan at any depth, every argument list and every choice map `x` of the program's static
    shape: the probability that `simulate` produces a trace whose choice map is `x` equals the
    product of the site masses `assessP` computes on `x` (0 where `assessP` raises — which for a map
    of the right shape happens only when an address is traced twice, and then `simulate` raises on
    every run).  Only hypothesis on the primitives: `pd.WF`; in particular a leaf value outside its
    primitive's support gives probability 0 on both sides. -/
theorem C01_simulate_law_partial {R : Type} [Zero R] [Add R] [Neg R] (pd : PD K) (P : Prims R)
    (hpd : pd.WF) (g : GF) (hcf : g.condFree = true) (args : List Val) (x : CM)
    (hs : g.skel = some x.skel) :
    E (g.simD pd P args) (optK fun t => if t.choices = some x then 1 else 0)
      = pmassOf (g.assessP pd x args) := by
  rw [← massOf_one]
  exact simD_law_condFree pd P hpd g hcf args x (fun _ => 1) hs

/-- the law stated with the EXISTING `GF.assess` (`_partial`: Cond-free): if the masses are the
    exponentials of the log densities (`pm = e ∘ lp`, `e 0 = 1`, `e (a + b) = e a · e b`), the
    probability that the simulated choice map is `x` is `e` of the log density `assess` returns on
    `x`.  (The weight type only needs `0, +, -`, so that it can contain `log 0`; see the example
    below.) -/
theorem C01_simulate_law_exp_assess_partial {R : Type} [Zero R] [Add R] [Neg R] (e : R → K)
    (he0 : e 0 = 1) (hadd : ∀ a b, e (a + b) = e a * e b) (pd : PD K) (P : Prims R)
    (hpm : ∀ d a v, pd.pm d a v = e (P.lp d a v)) (hpd : pd.WF) (g : GF)
    (hcf : g.condFree = true) (args : List Val) (x : CM) (hs : g.skel = some x.skel) :
    E (g.simD pd P args) (optK fun t => if t.choices = some x then 1 else 0)
      = (match g.assess P x args with
         | some lr => e lr.1
         | none => 0) := by
  rw [C01_simulate_law_partial pd P hpd g hcf args x hs,
    assessP_eq_exp_assess e he0 hadd pd P hpm g x args]
  cases g.assess P x args <;> rfl

/-- non-vacuity: the weight type `Additive ℚ` (ℚ with `0 := 1`, `+ := ·`, i.e. the log domain
    including `log 0`), `e` the identity, log densities `lp := pm` of the concrete primitives -/
example : ∃ (e : Additive ℚ → ℚ) (P : Prims (Additive ℚ)), e 0 = 1 ∧
    (∀ a b, e (a + b) = e a * e b) ∧ (∀ d a v, lawExPD.pm d a v = e (P.lp d a v)) ∧ lawExPD.WF :=
  ⟨Additive.toMul, ⟨fun d a v => Additive.ofMul (lawExPD.pm d a v), fun _ _ => .num 0⟩, rfl,
    fun _ _ => rfl, fun _ _ _ => rfl, lawExPD_wf⟩

variable {R : Type} [AddCommGroup R] (pd : PD K) (P : Prims R)

/-- **THE LAW** for every program, Cond at any depth, under `g.condOK`: at every Cond the two
    branches have the same static choice-map skeleton and trace no address twice (decidable; true for
    Cond-free programs).  The probability that the choice map of the simulated trace is `x` is the
    product of the site masses that `assessP` computes on `x`.
    (`C01_simulate_law_partial` is the Cond-free case, without `hnorm`.)  The shape condition on Conds cannot be dropped:
    `C01_simulate_law_fails_on_mixed_cond`. -/
theorem C01_simulate_law (hpd : pd.WF) (hnorm : pd.Normalised) (g : GF) (hc : g.condOK = true)
    (args : List Val) (x : CM) (hs : g.skel = some x.skel) :
    E (g.simD pd P args) (optK fun t => if t.choices = some x then 1 else 0)
      = pmassOf (g.assessP pd x args) := by
  rw [← massOf_one]
  exact simD_law pd P hpd hnorm g hc args x (fun _ => 1) hs

/-- the law jointly with the return value: (choices, retval) = (x, r) has the probability
    `assessP` assigns to `x` if `r` is the return value `assessP` computes, and 0 otherwise — the
    simulated trace's return value is the one `assess` returns on its choices, with probability 1. -/
theorem C01_simulate_law_retval (hpd : pd.WF) (hnorm : pd.Normalised) (g : GF)
    (hc : g.condOK = true) (args : List Val) (x : CM) (r : Val) (hs : g.skel = some x.skel) :
    E (g.simD pd P args) (optK fun t => if t.choices = some x ∧ t.retval = r then 1 else 0)
      = (match g.assessP pd x args with
         | some pr => if pr.2 = r then pr.1 else 0
         | none => 0) := by
  refine Eq.trans (congrArg (fun F => E _ (optK F)) (funext fun t => ite_and ..))
    ((simD_law pd P hpd hnorm g hc args x (fun r' => if r' = r then 1 else 0) hs).trans ?_)
  cases g.assessP pd x args with
  | none => rfl
  | some pr => exact (mul_ite ..).trans (if_congr Iff.rfl (mul_one _) (mul_zero _))

/-- the general form: expectation of any function `ψ` of the return value on the event
    "the choice map is `x`" -/
theorem C01_simulate_law_fn (hpd : pd.WF) (hnorm : pd.Normalised) (g : GF) (hc : g.condOK = true)
    (args : List Val) (x : CM) (ψ : Val → K) (hs : g.skel = some x.skel) :
    E (g.simD pd P args) (optK fun t => if t.choices = some x then ψ t.retval else 0)
      = (match g.assessP pd x args with
         | some pr => pr.1 * ψ pr.2
         | none => 0) := by
  refine (simD_law pd P hpd hnorm g hc args x ψ hs).trans ?_
  cases g.assessP pd x args <;> rfl

/-- mass 0 outside the static shape: a choice map that does not have the program's skeleton is
    never produced (any program, any primitives) -/
theorem C01_simulate_law_off_shape (g : GF) (args : List Val) (x : CM)
    (hs : g.skel ≠ some x.skel) :
    E (g.simD pd P args) (optK fun t => if t.choices = some x then (1 : K) else 0) = 0 :=
  simD_law_off_shape pd P g args x (fun _ => 1) hs

/-- on a program satisfying the hypotheses of the law, `assessP` does not raise on maps of the
    static shape (so the `none` branch of `pmassOf` is not what makes `C01_simulate_law` true) -/
theorem C01_assessP_defined (pd : PD K) (g : GF) (hn : g.noCollide = true) (hc : g.condOK = true)
    (x : CM) (args : List Val) (hs : g.skel = some x.skel) : (g.assessP pd x args).isSome :=
  assessP_defined pd g hn hc x args hs

/-- **total mass 1**: with normalised primitives `simD g args` is a probability distribution over
    outcomes — every program (Cond included), every argument list -/
theorem C01_simulate_mass_one (hnorm : pd.Normalised) (g : GF) (args : List Val) :
    mass (g.simD pd P args) = 1 := simD_mass pd P hnorm g args

/-- … and all of it sits on traces (no run raises) when no Fn body traces an address twice -/
theorem C01_simulate_mass_one_traces (hnorm : pd.Normalised) (g : GF) (hn : g.noCollide = true)
    (args : List Val) : E (g.simD pd P args) (optK fun _ => (1 : K)) = 1 :=
  simD_mass_some pd P hnorm g hn args

/-- every trace `simD` can produce (positive or zero probability, any primitives) is coherent, and
    `assess` on its choices returns `(-score, retval)`: the distributional version of
    `C01_simulate_score_assess` -/
theorem C01_simD_support_score_assess (g : GF) (args : List Val) (t : Tr R)
    (h : some t ∈ supp (g.simD pd P args)) (x : CM) (hx : t.choices = some x) :
    g.Coh P args t ∧ g.assess P x args = some (-t.score, t.retval) :=
  ⟨simD_coh pd P g args t h, coh_assess P g args t (simD_coh pd P g args t h) x hx⟩

/-- … and its choice map has the program's static skeleton -/
theorem C01_simD_support_choices_skel (g : GF) (args : List Val) (t : Tr R)
    (h : some t ∈ supp (g.simD pd P args)) : t.choices.map CM.skel = g.skel :=
  simD_choices_skel pd P g args t h

end C01Law

/-- The shape condition on Conds in `C01_simulate_law` is necessary.  `lawExCondBad` is
    `cond(c, {x ~ coin}, {x ~ coin; y ~ coin})`; with the true branch selected the merged choice map
    `{x: 1, y: 1}` has probability `1/2 · 1/2 = 1/4` (`y` comes from the hidden branch), whereas
    `assess` on it reports the selected branch's density `1/2`: the choice maps of such a Cond are
    NOT distributed according to the density `assess` computes (which sums to 2 over the four maps).
    All other hypotheses of `C01_simulate_law` hold for this instance. -/
theorem C01_simulate_law_fails_on_mixed_cond :
    lawExPD.WF ∧ lawExPD.Normalised ∧ lawExCondBad.noCollide = true ∧
    lawExCondBad.skel = some (lawExX 1 1).skel ∧
    E (lawExCondBad.simD lawExPD lawExP [.num 1])
      (optK fun t => if t.choices = some (lawExX 1 1) then 1 else 0) = 1/4 ∧
    pmassOf (lawExCondBad.assessP lawExPD (lawExX 1 1) [.num 1]) = 1/2 :=
  ⟨lawExPD_wf, lawExPD_normalised, by decide +kernel, simD_law_fails_on_mixed_cond.1,
    simD_law_fails_on_mixed_cond.2.1, congrArg pmassOf simD_law_fails_on_mixed_cond.2.2⟩

/-! ### non-vacuity (exact rationals; `lawExPD`: a coin with parameter, a three-valued primitive) -/

/-- hypotheses of the law on the concrete primitives -/
example : lawExPD.WF ∧ lawExPD.Normalised := ⟨lawExPD_wf, lawExPD_normalised⟩

/-- two sites, the second depending on the first (`x ~ coin(1/3); y ~ coin(1/4 + x/2)`):
    hypotheses and both sides of `C01_simulate_law_partial`, computed: `P(x=1, y=1) = 1/3 · 3/4` -/
example : lawExG.condFree = true ∧ lawExG.skel = some (lawExX 1 1).skel ∧
    E (lawExG.simD lawExPD lawExP [.num 0]) (optK fun t => if t.choices = some (lawExX 1 1) then 1 else 0)
      = 1/4 ∧
    pmassOf (lawExG.assessP lawExPD (lawExX 1 1) [.num 0]) = 1/4 := by
  decide +kernel

/-- a value outside the support (`y = 5`): probability 0 on both sides -/
example :
    E (lawExG.simD lawExPD lawExP [.num 0]) (optK fun t => if t.choices = some (lawExX 1 5) then 1 else 0)
      = 0 ∧ pmassOf (lawExG.assessP lawExPD (lawExX 1 5) [.num 0]) = 0 := by
  decide +kernel

/-- a Scan (2 steps, the carry feeds the next step's parameters) of a Fn calling a Vmap (2 lanes):
    `P(lanes = (1,0) then (1,1)) = 1/4 · 5/8 · 1/2 · 5/8` -/
example : lawExScan.condFree = true ∧ lawExScan.skel = some (lawExScanX 1 0 1 1).skel ∧
    E (lawExScan.simD lawExPD lawExP lawExScanArgs)
      (optK fun t => if t.choices = some (lawExScanX 1 0 1 1) then 1 else 0) = 25/512 ∧
    pmassOf (lawExScan.assessP lawExPD (lawExScanX 1 0 1 1) lawExScanArgs) = 25/512 := by
  decide +kernel

/-- a Cond with branches of the same shape (`C01_simulate_law`): false branch selected,
    `P(x = 2) = 1/6`, return value `x + 10` -/
example : lawExCond.condOK = true ∧ lawExCond.skel =
      some (CM.node (.cons "x" (.leaf (.num 2)) .nil)).skel ∧
    E (lawExCond.simD lawExPD lawExP [.num 0])
      (optK fun t => if t.choices = some (.node (.cons "x" (.leaf (.num 2)) .nil)) ∧
        t.retval = .num 12 then 1 else 0) = 1/6 ∧
    lawExCond.assessP lawExPD (.node (.cons "x" (.leaf (.num 2)) .nil)) [.num 0]
      = some (1/6, .num 12) := by
  decide +kernel

/-- total mass on the Scan/Vmap instance -/
example : mass (lawExScan.simD lawExPD lawExP lawExScanArgs) = 1 := by decide +kernel

end Genjax

import GenjaxModel.Proofs.Adev
import GenjaxModel.Proofs.AdevProg
import GenjaxModel.Proofs.AdevProgIO
import Mathlib.Algebra.Field.Rat
import Mathlib.Tactic.NormNum
import GenjaxModel.Proofs.Interp
/-!
# C11 — ADEV value and gradient estimators are unbiased (exact for enumeration)

Model `Model/Adev.lean`: estimators over dual numbers with continuations. Statements hold over
any field, every parameter value in the open domain, every continuation (i.e. every program that
follows the site). Reparameterised primitives are the pathwise JVP of JAX (trusted; checked per
draw by the correspondence run).
-/
namespace Genjax.Adev
variable {K : Type} [Field K]

/-- flip_enum (and flip_enum_parallel): exact value and exact derivative, zero variance -/
theorem C11_flip_enum_exact (p kT kF : Dual K) :
    (flipEnum p kT kF).v = Eflip p.v kT.v kF.v ∧
    (flipEnum p kT kF).d = p.d * (kT.v - kF.v) + p.v * kT.d + (1 - p.v) * kF.d :=
  flipEnum_exact p kT kF

/-- score-function (REINFORCE) flip: averaging over the outcomes gives the exact value and derivative -/
theorem C11_reinforce_flip_unbiased (p kT kF : Dual K) (h1 : p.v ≠ 0) (h2 : 1 - p.v ≠ 0) :
    Eflip p.v (reinforce (flipProb p true) kT).v (reinforce (flipProb p false) kF).v = (flipEnum p kT kF).v ∧
    Eflip p.v (reinforce (flipProb p true) kT).d (reinforce (flipProb p false) kF).d = (flipEnum p kT kF).d :=
  reinforce_flip_unbiased p kT kF h1 h2

/-- measure-valued flip: unbiased for every p -/
theorem C11_mvd_flip_unbiased (p kT kF : Dual K) :
    Eflip p.v (mvd true p kT kF).v (mvd false p kT kF).v = (flipEnum p kT kF).v ∧
    Eflip p.v (mvd true p kT kF).d (mvd false p kT kF).d = (flipEnum p kT kF).d :=
  mvd_flip_unbiased p kT kF

-- `hl` is not needed: `zipWith` truncates both sums alike
set_option linter.unusedVariables false in
/-- REINFORCE over any finite distribution (categorical, geometric truncated, …) -/
theorem C11_reinforce_finite_unbiased (ps ks : List (Dual K)) (hl : ps.length = ks.length)
    (hp : ∀ p ∈ ps, p.v ≠ 0) : reinforceExpectedTangent ps ks = (enumAll ps ks).d :=
  reinforce_finite_unbiased ps ks hp

/-- every estimator is affine in the continuation's estimate (tower property for compositions) -/
theorem C11_estimators_affine_in_continuation (pb k1 k2 : Dual K) (w : K) (b : Bool)
    (p kT1 kT2 kF1 kF2 : Dual K) :
    (reinforce pb ⟨w * k1.v + (1 - w) * k2.v, w * k1.d + (1 - w) * k2.d⟩).d =
      w * (reinforce pb k1).d + (1 - w) * (reinforce pb k2).d ∧
    (mvd b p ⟨w * kT1.v + (1 - w) * kT2.v, w * kT1.d + (1 - w) * kT2.d⟩
             ⟨w * kF1.v + (1 - w) * kF2.v, w * kF1.d + (1 - w) * kF2.d⟩).d =
      w * (mvd b p kT1 kF1).d + (1 - w) * (mvd b p kT2 kF2).d :=
  ⟨reinforce_affine pb k1 k2 w, by cases b <;> simp only [mvd_true, mvd_false] <;> ring⟩

/-- different primitives composed in one program (outer REINFORCE, inner MVD, arbitrary dependence of
    the continuation on both outcomes): unbiased, cross terms included -/
theorem C11_composition_unbiased (p q : Dual K) (k : Bool → Bool → Dual K)
    (h1 : p.v ≠ 0) (h2 : 1 - p.v ≠ 0) :
    let inner := fun b1 b2 => mvd b2 q (k b1 true) (k b1 false)
    let outer := fun b1 b2 => reinforce (flipProb p b1) (inner b1 b2)
    Eflip p.v (Eflip q.v (outer true true).d (outer true false).d)
              (Eflip q.v (outer false true).d (outer false false).d)
      = (flipEnum p (flipEnum q (k true true) (k true false))
                    (flipEnum q (k false true) (k false false))).d := by
  intro inner outer
  -- tower property: average the inner (MVD) site first, inside the outer REINFORCE estimate
  have tower (b1 : Bool) : Eflip q.v (outer b1 true).d (outer b1 false).d
      = (reinforce (flipProb p b1) (flipEnum q (k b1 true) (k b1 false))).d := by
    obtain ⟨hv, hd⟩ := mvd_flip_unbiased q (k b1 true) (k b1 false)
    have hq : (⟨_, _⟩ : Dual K) = flipEnum q (k b1 true) (k b1 false) := Dual.ext hv hd
    rw [← hq]
    exact (reinforce_affine _ _ _ _).symm
  rw [tower, tower]
  exact (reinforce_flip_unbiased p _ _ h1 h2).2

/-! ## Whole programs (any number of composed sites) and more primitives

Model `Model/AdevProg.lean`: `Prog` = outcome tree of a discrete ADEV program (`flip e p k`, `cat e ps k`,
`ret r`; `k outcome` = rest of the program, so later parameters / later sites / the result may depend
on all earlier outcomes and, through duals, on θ); `SProg` = straight-line programs (a Jaxpr without
`cond`: parameters are functions of the list of earlier outcomes).  `Prog.exact` = true expectation and
true derivative (nested enumeration in dual arithmetic), `Prog.run` = `kpure` (one forward-sampling
run), `Prog.est` = `kdual` (the Dual the CPS interpreter returns, as a finite distribution; each call of
a continuation draws fresh randomness).  Lemmas in `Proofs/AdevProg.lean`; the examples obtain their
guards from the decided `Prog.okB` (`Prog.okB_sound`) and `mean = exact` from the theorem. -/
section Compose
open Genjax.Smc.FinDist (E mass)

/-- the guards of `C11_program_unbiased` (definition `Prog.OK`, unfolded): every categorical site is
    normalised and every outcome probability of a REINFORCE site is non-zero, at every site of the
    tree -/
theorem C11_program_guards (e : FlipEst) (p : Dual K) (k : Bool → Prog K) (c : CatEst)
    (ps : List (Dual K)) (kc : Nat → Prog K) (r : Dual K) :
    ((Prog.ret r).OK ↔ True) ∧
    ((Prog.flip e p k).OK ↔ (e = .reinforce → p.v ≠ 0 ∧ 1 - p.v ≠ 0) ∧ ∀ b, (k b).OK) ∧
    ((Prog.cat c ps kc).OK ↔ (sumD ps).v = 1 ∧ (c = .reinforce → ∀ q ∈ ps, q.v ≠ 0) ∧
        ∀ i, i < ps.length → (kc i).OK) :=
  ⟨Iff.rfl, Iff.rfl, Iff.rfl⟩

/-- composition in general (the two-site `C11_composition_unbiased` is a special case):
    for EVERY discrete ADEV program - any number of sites, any mix of flip_enum, flip_enum_parallel,
    flip_reinforce, flip_mvd, categorical_enum_parallel and finite-support REINFORCE, arbitrary
    dependence of later sites on earlier outcomes - the expectation over all random outcomes of the
    Dual computed by the CPS interpreter is exactly (value) the expectation of the program and
    (tangent) its derivative; all cross terms between different estimators included. -/
theorem C11_program_unbiased (p : Prog K) (h : p.OK) :
    E p.est (fun r => r.v) = p.exact.v ∧ E p.est (fun r => r.d) = p.exact.d :=
  Prog.est_unbiased p h

/-- … the estimate is a normalised distribution (so the expectations above are genuine averages),
    and so is the forward-sampling run used by flip_mvd for the complementary outcome, whose mean is
    the exact value -/
theorem C11_program_normalised (p : Prog K) (h : p.OK) :
    mass p.est = 1 ∧ mass p.run = 1 ∧ E p.run (fun o => o) = p.exact.v :=
  ⟨Prog.mass_est p h, Prog.mass_run p h, Prog.E_run p⟩

/-- the same for straight-line programs (`jaxpr` without `cond`) with any number of sites, started
    after the outcomes `outs` -/
theorem C11_straightline_program_unbiased (sp : SProg K) (outs : List Outcome) (h : sp.OK outs) :
    E (sp.toProg outs).est (fun r => r.v) = (sp.toProg outs).exact.v ∧
    E (sp.toProg outs).est (fun r => r.d) = (sp.toProg outs).exact.d :=
  Prog.est_unbiased _ ((SProg.OK_toProg sp outs).mpr h)

/-- non-vacuity: a 3-site straight-line program over ℚ - flip_enum, then flip_reinforce whose
    parameter depends on the first outcome, then flip_mvd whose parameter depends on the second
    outcome, returning a value and tangent that depend on all three outcomes -/
def demo3 : SProg Rat :=
  .flip .enum (fun _ => ⟨1/2, 1⟩) <|
  .flip .reinforce (fun o => if o = [1] then ⟨1/3, 2⟩ else ⟨1/4, -1⟩) <|
  .flip .mvd (fun o => if o.getD 1 0 = 1 then ⟨1/5, 3⟩ else ⟨2/3, 1/2⟩) <|
  .ret fun o => ⟨(o.foldl (fun a b => 2 * a + b) 0 : Nat), (o.foldl (fun a b => 3 * a + b + 1) 0 : Nat)⟩

example : demo3.OK [] := (SProg.OK_toProg _ _).mp (Prog.okB_sound _ (by decide +kernel))

/-- its estimator has 16 weighted outcomes (2 continuation estimates for the enumeration, each
    2 REINFORCE outcomes × 2 MVD outcomes × 1 forward run of the complementary branch) whose mean is
    the exact dual (1121/360, 6007/240) -/
example : (demo3.toProg []).est.length = 16 ∧
    meanD (demo3.toProg []).est = (demo3.toProg []).exact ∧
    (demo3.toProg []).exact = ⟨1121/360, 6007/240⟩ :=
  ⟨by decide +kernel, Prog.meanD_est _ (Prog.okB_sound _ (by decide +kernel)), by decide +kernel⟩

/-- a second instance with categorical sites: categorical_enum_parallel over 3 outcomes, then a
    REINFORCE categorical whose probabilities depend on the first outcome, then flip_mvd -/
def demoCat : SProg Rat :=
  .cat .enumPar (fun _ => [⟨1/2, 1⟩, ⟨1/3, -2⟩, ⟨1/6, 1⟩]) <|
  .cat .reinforce (fun o => if o = [0] then [⟨1/4, 1⟩, ⟨3/4, -1⟩] else [⟨1/5, 2⟩, ⟨2/5, 0⟩, ⟨2/5, -2⟩]) <|
  .flip .mvd (fun o => ⟨1 / ((o.getD 1 0 : Nat) + 2), 1⟩) <|
  .ret fun o => ⟨(o.foldl (fun a b => 3 * a + b) 0 : Nat), (o.sum : Nat)⟩

example : demoCat.OK [] ∧ meanD (demoCat.toProg []).est = (demoCat.toProg []).exact :=
  have h : demoCat.OK [] := (SProg.OK_toProg _ _).mp (Prog.okB_sound _ (by decide +kernel))
  ⟨h, Prog.meanD_est _ ((SProg.OK_toProg _ _).mpr h)⟩

/-- categorical_enum_parallel is exact: the Dual it returns for probability duals `ps`
    (= softmax(logits) and its JVP) and continuation duals `ks` has value Σ_i p_i k_i and tangent
    Σ_i (p_i' k_i + p_i k_i') - no outcome is sampled, zero variance -/
theorem C11_categorical_enum_exact (ps ks : List (Dual K)) :
    (enumAll ps ks).v = sumK (List.zipWith (fun p k => p.v * k.v) ps ks) ∧
    (enumAll ps ks).d = sumK (List.zipWith (fun p k => p.d * k.v + p.v * k.d) ps ks) :=
  ⟨enumAll_v ps ks, enumAll_d ps ks⟩

/-- the softmax probability duals fed to the enumeration are normalised (values sum to 1, tangents
    to 0; `ex` = the exponential), and under normalised probabilities the enumeration of a constant
    continuation returns that constant (no spurious gradient) -/
theorem C11_softmax_normalised (ex : K → K) (ls : List (Dual K))
    (hS : sumK (ls.map fun l => ex l.v) ≠ 0) (c : Dual K) :
    sumD (softmaxD ex ls) = ⟨1, 0⟩ ∧
    enumAll (softmaxD ex ls) (List.replicate (softmaxD ex ls).length c) = c :=
  ⟨softmaxD_normalised ex ls hS, enumAll_const _ c (softmaxD_normalised ex ls hS)⟩

/-- the hypothesis `hS` of `C11_softmax_normalised` on an instance (three logits, `ex x = 1 + x`) -/
example : sumK (([⟨0, 1⟩, ⟨1, -1⟩, ⟨2, 5⟩] : List (Dual Rat)).map fun l => (fun x => 1 + x) l.v) ≠ 0 := by
  decide +kernel

/-- flip_enum_parallel (Σ [p, 1−p] · kdual([True, False])) returns the same Dual as flip_enum, hence
    is exact as well -/
theorem C11_flip_enum_parallel_exact (p kT kF : Dual K) :
    enumAll [p, Dual.sub (Dual.const 1) p] [kT, kF] = flipEnum p kT kF ∧
    (enumAll [p, Dual.sub (Dual.const 1) p] [kT, kF]).v = Eflip p.v kT.v kF.v ∧
    (enumAll [p, Dual.sub (Dual.const 1) p] [kT, kF]).d
      = p.d * (kT.v - kF.v) + p.v * kT.d + (1 - p.v) * kF.d := by
  rw [flipEnumPar_eq]
  exact ⟨rfl, flipEnum_exact p kT kF⟩

-- `hl` is not needed here either
set_option linter.unusedVariables false in
/-- geometric_reinforce, support truncated to {0..n-1} with P(i) = (1−p)^i p: the outcome-average
    of the REINFORCE tangents is the derivative of Σ_{i<n} P(i) k_i (p ≠ 0, p ≠ 1) -/
theorem C11_geometric_reinforce_unbiased (p : Dual K) (n : Nat) (ks : List (Dual K))
    (hl : ks.length = n) (h1 : p.v ≠ 0) (h2 : 1 - p.v ≠ 0) :
    reinforceExpectedTangent (geomProbs p n) ks = (enumAll (geomProbs p n) ks).d :=
  reinforce_finite_unbiased _ ks (geomProbs_ne_zero p n h1 h2)

example : reinforceExpectedTangent (geomProbs (⟨1/3, 1⟩ : Dual Rat) 4) [⟨1, 0⟩, ⟨2, 1⟩, ⟨5, -1⟩, ⟨7, 2⟩]
    = (enumAll (geomProbs (⟨1/3, 1⟩ : Dual Rat) 4) [⟨1, 0⟩, ⟨2, 1⟩, ⟨5, -1⟩, ⟨7, 2⟩]).d ∧
    (enumAll (geomProbs (⟨1/3, 1⟩ : Dual Rat) 4) [⟨1, 0⟩, ⟨2, 1⟩, ⟨5, -1⟩, ⟨7, 2⟩]).d ≠ 0 := by
  decide +kernel

end Compose

/-! ## The driver command `adev-prog` (whole programs run against the implementation)

`Model/AdevProgIO.lean` gives the programs of `Model/AdevProg.lean` a concrete syntax (`PAst`: sites
`flip <estimator> <term>` / `cat <estimator> <terms>`, `branch`, `ret <term>`; `ATerm`: arithmetic over θ,
constants and earlier outcomes, evaluated in dual arithmetic).  The harness (`harness/adevprog.py`,
`harness/props/c11.py: check_described`) generates the JAX program and the driver term from ONE
description and compares every internal outcome path of `jvp_estimate` with `Prog.est`.  The theorems
below say what the driver's answer means for EVERY program text. -/
section Tie
open Genjax.Smc.FinDist (E mass)

/-- the flag `guards T` printed by the driver implies the guards `Prog.OK` of `C11_program_unbiased`
    (every categorical site normalised, every REINFORCE outcome probability non-zero) -/
theorem C11_driver_guards_sound (p : Prog Rat) (h : Prog.okB p = true) : p.OK :=
  Prog.okB_sound p h

/-- a program text without `branch`, read as a straight-line program of the model (`SProg`, a Jaxpr
    without `cond`) and unfolded by `SProg.toProg`, is the outcome tree obtained from the text directly -/
theorem C11_driver_straightline_reading (th : Dual Rat) (a : PAst Rat) (sp : SProg Rat)
    (h : a.toSProg th = some sp) (outs : List Outcome) : sp.toProg outs = a.toProg th outs :=
  PAst.toSProg_toProg th a sp h outs

/-- the driver's answer is an unbiased estimator: for every program text `a` and every θ, when the
    driver answers `guards T`, the `est` entries (probability, value, tangent) it prints - the
    distribution the harness compares with the implementation's enumeration, equal duals merged -
    have total probability 1 and probability-weighted mean equal to the printed `exact` dual (the
    true expectation and derivative, `Prog.exact`); the same for the unmerged `mean` / `mass`. -/
theorem C11_driver_report_unbiased (θ : Rat) (a : PAst Rat) (h : (a.report θ).guards = true) :
    wsum (fun v _ => v) (a.report θ).est = (a.report θ).exact.v ∧
    wsum (fun _ d => d) (a.report θ).est = (a.report θ).exact.d ∧
    wsum (fun _ _ => 1) (a.report θ).est = 1 ∧
    (a.report θ).mean = (a.report θ).exact ∧ (a.report θ).mass = 1 :=
  PAst.report_sound θ a h

/-- non-vacuity / demo: the harness program `three:reinforce>cat3par>mvd` as a driver term - a
    REINFORCE flip with parameter θ, categorical_enum_parallel over weights (θ, 1 or 2, 2 − θ) that depend
    on the first outcome, flip_mvd whose parameter depends on the categorical index, result depending on
    all three outcomes and non-linearly on θ -/
def demoTie : PAst Rat :=
  .flip .reinforce .theta <|
  .cat .enumPar [.theta, .ite 0 (.const 1) (.const 2), .sub (.const 2) .theta] <|
  .flip .mvd (.eqn 1 0 (.mul (.const (1/2)) .theta) (.eqn 1 1 .theta (.sub (.const 1) .theta))) <|
  .ret (.add (.mul (.add (.out 1) (.ite 0 (.const 1) (.const 3))) (.ite 2 .theta (.mul .theta .theta))) (.out 0))

/-- at θ = 1/4: the guards hold, the estimator has 16 outcome paths (2 REINFORCE outcomes × 2 MVD
    outcomes in each of the 3 vectorised lanes), all with distinct duals, and its mean is the exact dual
    (7113/8192, 7085/2048) -/
example : (demoTie.report (1/4)).guards = true ∧ (demoTie.report (1/4)).paths = 16 ∧
    (demoTie.report (1/4)).est.length = 16 ∧ (demoTie.report (1/4)).sprog = true ∧
    (demoTie.report (1/4)).mean = (demoTie.report (1/4)).exact ∧
    (demoTie.report (1/4)).exact = ⟨7113/8192, 7085/2048⟩ := by
  -- evaluated: guards, path counts, exact dual; `sprog` and `mean = exact` follow from what they mean
  have h : (demoTie.report (1/4)).guards = true ∧ (demoTie.report (1/4)).paths = 16 ∧
      (demoTie.report (1/4)).est.length = 16 ∧
      (demoTie.report (1/4)).exact = ⟨7113/8192, 7085/2048⟩ := by decide +kernel
  exact ⟨h.1, h.2.1, h.2.2.1, (PAst.report_sprog _ _).trans (by decide +kernel),
    (PAst.report_sound _ _ h.1).2.2.2.1, h.2.2.2⟩

end Tie

/-! ### Sites inside `lax.cond` branches and inside nested calls -/

/-- a site inside a `lax.cond` branch must get the rest of the PROGRAM as its continuation (genjax
    b0f97e1; finding `adev-site-in-cond-branch`, DESIGN §8), not only the rest of the branch with the
    computation after the cond applied to the branch's result.
    For `b = flip_enum(p); x = cond(b, where(flip_enum(q), 2, -1)·q, p); return x²` at
    (p, q) = (3/10, 3/5): the expectation (what the property demands, and what the outcome-tree
    model `Prog.exact` computes) is 1827/5000 = 0.3654, the branch-local evaluation gives
    3303/25000 = 0.13212; `props/c11.py` requires the first value. -/
theorem C11_asis_cond_branch_cex :
    let p : Dual ℚ := ⟨3/10, 0⟩
    let q : Dual ℚ := ⟨3/5, 0⟩
    let x : Bool → Dual ℚ := fun b => Dual.mul (if b then Dual.const 2 else Dual.const (-1)) q
    let sq : Dual ℚ → Dual ℚ := fun d => Dual.mul d d
    (flipEnum p (flipEnum q (sq (x true)) (sq (x false))) (sq p)).v = 1827/5000 ∧
    (flipEnum p (sq (flipEnum q (x true) (x false))) (sq p)).v = 3303/25000 := by
  decide +kernel

/-- where a site gets its estimator semantics (Model/Interp.lean, kinds for ADEV: cond interpreted, nested jit /
    checkpoint evaluated in place (genjax d3d169e), scan / while / custom_jvp re-bound): the sites the interpreter
    handles and the sites JAX's own rule inlines partition the program's sites; every site is handled (once, in order)
    iff no re-bound equation holds one (`_partial`: open finding adev-site-in-uninterpreted-call is the other case) -/
theorem C11_sites_reach_the_interpreter_partial (j : Interp.J) :
    ((Interp.runOld j).1 ++ (Interp.runOld j).2).Perm j.sites ∧
    (j.blocked = false → (Interp.runOld j).1 = j.sites) ∧
    ((Interp.runOld j).2 ≠ [] ↔ j.blocked = true) := by
  have hblk := Interp.run_none_iff_blocked j
  refine ⟨Interp.runOld_partition j, fun h => ?_, (Interp.runOld_escapes_iff j).trans hblk⟩
  have hn : Interp.run j ≠ none := fun hr => Bool.false_ne_true (h.symm.trans (hblk.mp hr))
  exact Interp.run_handles_all j _ (Interp.runOld_eq_run j hn)

/-- the pre-pass `_eval_inlining_site_calls` (genjax d3d169e; `Interp.J.inlineCalls`): splicing the bodies of nested
    jit / checkpoint calls in place of the calls leaves no such call in front of a site, keeps every site, once, in
    order, and does not change which sites reach the interpreter and which are lost -/
theorem C11_inline_prepass_transparent (j : Interp.J) :
    j.inlineCalls.siteInline = false ∧ j.inlineCalls.sites = j.sites ∧
    Interp.runOld j.inlineCalls = Interp.runOld j :=
  ⟨Interp.noInline_siteInline _ (Interp.inlineCalls_noInline j), Interp.inlineCalls_sites j,
   Interp.inlineCalls_runOld j⟩

end Genjax.Adev

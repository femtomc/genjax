import GenjaxModel.Proofs.GfiCohInv
import GenjaxModel.Proofs.GfiAssess
import GenjaxModel.Proofs.GfiWeight
import GenjaxModel.Proofs.GfiAssessCond
import GenjaxModel.Proofs.GfiValues
import GenjaxModel.Proofs.GfiGenLaw
import GenjaxModel.Proofs.GfiGenTie
import GenjaxModel.Proofs.GfiGenLawCondSum
/-!
# C02 — generate honours constraints and returns the proper importance weight

Four parts: (1) the trace and weight `GF.generate` returns (every program / constraint map /
argument list / variant `cfg`); (2) proper weighting in the finite-distribution semantics
`GF.generateD`, Cond-free programs (`_partial`), with the tie of `generateD` to `GF.generate`;
(3) the VALUES the generated trace holds; (4) proper weighting for programs with Cond.
-/
namespace Genjax
variable {R : Type} [AddCommGroup R] (P : Prims R) (cfg : Cfg)

/-- generate returns a coherent trace, for every constraint map (none, partial, full), Cond included -/
theorem C02_generate_coherent (g : GF) (x : Option CM) (args : List Val) (t : Tr R) (w : R)
    (h : g.generate P cfg x args = some (t, w)) : g.Coh P args t := generate_coh P cfg g x args t w h

/-- weight 0 when nothing is constrained (also for a whole sub-call left unconstrained: the Generate
    handler passes `none` to the callee) -/
theorem C02_generate_none_weight (g : GF) (args : List Val) (t : Tr R) (w : R)
    (h : g.generate P cfg none args = some (t, w)) : w = 0 := generate_none_weight P cfg g args t w h

/-- score = -assess(choices) for generated traces (`_partial`: Cond-free programs; for every program:
    `C02_generate_score_assess` below) -/
theorem C02_generate_score_assess_partial (g : GF) (hg : g.condFree = true) (x : Option CM)
    (args : List Val) (t : Tr R) (w : R) (h : g.generate P cfg x args = some (t, w)) :
    ∃ x', t.choices = some x' ∧ g.assess P x' args = some (-t.score, t.retval) := by
  obtain ⟨x', hx⟩ := generate_choices_some P cfg g hg x args t w h
  exact ⟨x', hx, coh_assess P g args t (generate_coh P cfg g x args t w h) x' hx⟩

/-- the code as it is rejects an empty constraint for a vectorised sub-call whose axis size is
    inferred (IndexError in `static_dim_length`); the specification variant accepts it -/
theorem C02_vmap_generate_none_asis (g : GF) (n : Nat) (args : List Val) :
    (GF.vmap g [true] n).generate P Cfg.asis none args = none := by
  simp [GF.generate, Cfg.asis]

/-- score = -assess(choices) and the program's return value for generated traces — every program
    (Cond at any depth), every constraint map.  `hx'` = "`get_choices()` does not raise".
    Contains `C02_generate_score_assess_partial`. -/
theorem C02_generate_score_assess (g : GF) (x : Option CM) (args : List Val) (t : Tr R) (w : R)
    (h : g.generate P cfg x args = some (t, w)) (x' : CM) (hx' : t.choices = some x') :
    g.assess P x' args = some (-t.score, t.retval) :=
  coh_assess P g args t (generate_coh P cfg g x args t w h) x' hx'

/-- the generated trace's choice map has the program's static skeleton (exists iff that exists) -/
theorem C02_generate_choices_skel (g : GF) (x : Option CM) (args : List Val) (t : Tr R) (w : R)
    (h : g.generate P cfg x args = some (t, w)) : t.choices.map CM.skel = g.skel :=
  generate_choices_skel P cfg g x args t w h

/-- end to end for programs whose Cond branches are compatible -/
theorem C02_generate_score_assess_compat (g : GF) (hs : g.skel.isSome) (x : Option CM)
    (args : List Val) (t : Tr R) (w : R) (h : g.generate P cfg x args = some (t, w)) :
    ∃ x', t.choices = some x' ∧ g.assess P x' args = some (-t.score, t.retval) := by
  obtain ⟨x', hx'⟩ := choices_of_skel (generate_choices_skel P cfg g x args t w h) hs
  exact ⟨x', hx', C02_generate_score_assess P cfg g x args t w h x' hx'⟩

/-- non-vacuity: constraining `"x"` of the Cond program `condExG` (both branches share `"x"`) -/
example : ∃ t w x', condExG.generate condExP Cfg.asis
      (some (.node (.cons "x" (.leaf (.num 10)) .nil))) [.num 0, .num 7] = some (t, w) ∧
    t.choices = some x' ∧ condExG.assess condExP x' [.num 0, .num 7] = some (-t.score, t.retval) ∧
    w = 22 :=
  ⟨_, _, _, rfl, rfl, rfl, rfl⟩

end Genjax

/-! ## `generate` is properly weighted
  (model `Model/GfiDist.lean`, proofs `Proofs/GfiGenLaw.lean`, `Proofs/GfiGenSim.lean`)

  C02's "the importance weight is unbiased for the marginal likelihood of the constraints".
  `GF.generateD pd P cfg g x args` is `GF.generate` with every UNCONSTRAINED Distribution site drawing
  from its finite-support distribution and every constrained site contributing its mass to the
  weight (linear domain: the weight is the product of the masses of the constrained sites, i.e.
  `exp` of the log weight `GF.generate` returns).  `Tr.agS t x` / `CM.agreeWith y x` are the 1/0
  indicators "the trace `t` / the complete choice map `y` takes the constrained value at every site
  the constraint map `x` addresses" (`y` is a completion of `x`).
  The theorems of this section are `_partial`: Cond-free programs (a Cond evaluates `generate` on BOTH
  branches under the same constraints, so the hidden branch is not drawn from the program's own
  distribution; programs with Cond are treated at the end of this file).
  `g.vmapOK cfg`: every Vmap accepts an empty constraint in variant
  `cfg` (always true for `Cfg.spec`; for `Cfg.asis` it requires Vmaps without mapped arguments,
  cf. `C02_vmap_generate_none_asis`). -/
namespace Genjax
open Smc Smc.FinDist

section C02Law
variable {K : Type} [Field K] {R : Type} [AddCommGroup R] (pd : PD K) (P : Prims R) (cfg : Cfg)

/-- **Proper weighting** (`_partial`: Cond-free).  For every constraint map `ox` (none, partial,
    full; a map of the wrong kind makes `generate` raise and no trace agree: both sides 0), every
    argument list and every test function `φ` of the trace:
    `E_{(t,w) ∼ generate}[w·φ(t)] = E_{t ∼ simulate}[1{t agrees with the constraints}·φ(t)]`.
    Programs with Cond: `C02_generate_proper_weight` (functions of the observable trace; for
    arbitrary `φ` the statement is false there, `C02_generate_hidden_branch_not_prior`). -/
theorem C02_generate_proper_weight_partial (hpd : pd.WF) (g : GF) (hcf : g.condFree = true)
    (hv : g.vmapOK cfg = true) (ox : Option CM) (args : List Val) (φ : Tr R → K) :
    E (g.generateD pd P cfg ox args) (optK fun tw => tw.2 * φ tw.1)
      = E (g.simD pd P args) (optK fun t => t.agT ox * φ t) :=
  generateD_law pd P cfg hpd g hcf hv ox args φ

/-- **E[weight] = marginal likelihood of the constraints** (`_partial`: Cond-free): the expected
    importance weight is the probability, under the program's own distribution (`simD`, whose law is
    the density `assess` computes, `C01_simulate_law`), that the trace takes the constrained values.
    Runs on which `generate` raises count 0 on the left: address collisions (`simulate` raises on
    them too) and constraints of the wrong kind (no trace agrees with them). -/
theorem C02_generate_unbiased_partial (hpd : pd.WF) (g : GF) (hcf : g.condFree = true)
    (hv : g.vmapOK cfg = true) (x : CM) (args : List Val) :
    E (g.generateD pd P cfg (some x) args) (optK fun tw => tw.2)
      = E (g.simD pd P args) (optK fun t => t.agS x) := by
  have := generateD_law pd P cfg hpd g hcf hv (some x) args (fun _ => 1)
  simpa only [mul_one, Tr.agT] using this

/-- each complete choice map `y` of the program's shape contributes to that marginal likelihood
    its density `assessP y` if it is a completion of `x`, and nothing otherwise -/
theorem C02_completion_mass_partial (hpd : pd.WF) (g : GF) (hcf : g.condFree = true) (x y : CM)
    (args : List Val) (hs : g.skel = some y.skel) :
    E (g.simD pd P args) (optK fun t => if t.choices = some y then t.agS x else 0)
      = if y.agreeWith x then pmassOf (g.assessP pd y args) else 0 :=
  simD_completion_mass pd P hpd g (condFree_lawHyp_gf pd P g hcf) (condFree_condOK_gf g hcf) x y args hs

/-- **E[weight] = Σ over the completions `y ⊇ x` of `assessP y`** (`_partial`: Cond-free), for any
    list `ys` of distinct choice maps of the program's shape containing every choice map `simulate`
    can produce (`coversB` is an executable check of that). -/
theorem C02_generate_unbiased_sum_partial (hpd : pd.WF) (g : GF) (hcf : g.condFree = true)
    (hv : g.vmapOK cfg = true) (x : CM) (args : List Val) (ys : List CM) (hnd : ys.Nodup)
    (hcov : ∀ t, some t ∈ supp (g.simD pd P args) → ∃ y ∈ ys, t.choices = some y)
    (hshape : ∀ y ∈ ys, g.skel = some y.skel) :
    E (g.generateD pd P cfg (some x) args) (optK fun tw => tw.2)
      = sumK (ys.map fun y => if y.agreeWith x then pmassOf (g.assessP pd y args) else 0) :=
  (C02_generate_unbiased_partial pd P cfg hpd g hcf hv x args).trans
    (simD_agree_sum pd P hpd g (condFree_lawHyp_gf pd P g hcf) (condFree_condOK_gf g hcf) x args ys
      hnd hcov hshape)

/-- proper weighting outcome by outcome (`_partial`: Cond-free): for every complete choice map `y`
    of the program's shape, `E[w · 1{choices = y}]` is `assessP y` if `y` is a completion of the
    constraints and 0 otherwise (`agO none y = 1`, `agO (some x) y = 1{y.agreeWith x}`) -/
theorem C02_generate_pointwise_partial (hpd : pd.WF) (g : GF) (hcf : g.condFree = true)
    (hv : g.vmapOK cfg = true) (ox : Option CM) (args : List Val) (y : CM)
    (hs : g.skel = some y.skel) :
    E (g.generateD pd P cfg ox args) (optK fun tw => if tw.1.choices = some y then tw.2 else 0)
      = agO ox y * pmassOf (g.assessP pd y args) := by
  rw [E_weight_choicesAre, generateD_law pd P cfg hpd g hcf hv ox args (choicesAre y fun _ => 1),
    simD_agree_law pd P hpd g (condFree_lawHyp_gf pd P g hcf) (condFree_condOK_gf g hcf) ox y args
      (fun _ => 1) hs, massOf_one]

/-- nothing constrained: the weight is 1 on every run (linear-domain form of
    `C02_generate_none_weight`), as an expectation against any `φ` -/
theorem C02_generateD_none_partial (hpd : pd.WF) (g : GF) (hcf : g.condFree = true)
    (hv : g.vmapOK cfg = true) (args : List Val) (φ : Tr R → K) :
    E (g.generateD pd P cfg none args) (optK fun tw => tw.2 * φ tw.1)
      = E (g.simD pd P args) (optK φ) := by
  have := generateD_law pd P cfg hpd g hcf hv none args φ
  simpa only [Tr.agT, one_mul] using this

end C02Law

/-- TIE of the distribution-valued `generateD` to the executable `GF.generate` (EVERY program,
    Cond included, every constraint map, every variant `cfg`): when each primitive has the one-point
    support `[P.draw d a]` and the masses are the exponentials of the log densities
    (`e 0 = 1`, `e (a + b) = e a · e b`, `pm = e ∘ lp`), `generateD` has a single outcome — the
    trace `GF.generate` returns with the weight `e (log weight)`, or "raises" when it raises. -/
theorem C02_generateD_point {K : Type} [Field K] {R : Type} [Zero R] [Add R] [Neg R]
    (e : R → K) (he0 : e 0 = 1) (hadd : ∀ a b, e (a + b) = e a * e b) (pd : PD K) (P : Prims R)
    (cfg : Cfg) (hsupp : ∀ d a, pd.support d a = [P.draw d a])
    (hpm : ∀ d a v, pd.pm d a v = e (P.lp d a v)) (g : GF) (ox : Option CM) (args : List Val) :
    ∃ q, g.generateD pd P cfg ox args
      = [((g.generate P cfg ox args).map fun tw => (tw.1, e tw.2), q)] :=
  generateD_point e he0 hadd pd P cfg hsupp hpm g ox args

/-- non-vacuity of the tie: the integer log densities of `condExP`, base-2 exponential -/
example : ∃ (e : ℤ → ℚ) (pd : PD ℚ), e 0 = 1 ∧ (∀ a b, e (a + b) = e a * e b) ∧
    (∀ d a, pd.support d a = [condExP.draw d a]) ∧ (∀ d a v, pd.pm d a v = e (condExP.lp d a v)) :=
  ⟨fun n => (2 : ℚ) ^ n, ⟨fun d a => [condExP.draw d a], fun d a v => (2 : ℚ) ^ (condExP.lp d a v)⟩,
    by simp, fun a b => zpow_add₀ (by norm_num) a b, fun _ _ => rfl, fun _ _ _ => rfl⟩

/-! ### non-vacuity (exact rationals; the instances of `Proofs/GfiLawMain.lean`) -/

/-- the four complete choice maps of `lawExG` -/
def lawExYs : List CM := [lawExX 0 0, lawExX 0 1, lawExX 1 0, lawExX 1 1]

/-- two dependent sites, `y` constrained to 1, `x` free: all hypotheses of
    `C02_generate_unbiased_sum_partial`, and both sides computed:
    `E[w] = P(y = 1) = 2/3·1/4 + 1/3·3/4 = 5/12` -/
example : lawExPD.WF ∧ lawExG.condFree = true ∧ lawExG.vmapOK Cfg.asis = true ∧ lawExYs.Nodup ∧
    (∀ t, some t ∈ supp (lawExG.simD lawExPD lawExP [.num 0]) → ∃ y ∈ lawExYs, t.choices = some y) ∧
    (∀ y ∈ lawExYs, lawExG.skel = some y.skel) ∧
    E (lawExG.generateD lawExPD lawExP Cfg.asis
        (some (.node (.cons "y" (.leaf (.num 1)) .nil))) [.num 0]) (optK fun tw => tw.2) = 5/12 ∧
    sumK (lawExYs.map fun y => if y.agreeWith (.node (.cons "y" (.leaf (.num 1)) .nil))
        then pmassOf (lawExG.assessP lawExPD y [.num 0]) else 0) = 5/12 := by
  refine ⟨lawExPD_wf, by decide +kernel, by decide +kernel, by decide +kernel,
    covers_of_coversB _ _ (by decide +kernel), by decide +kernel⟩

/-- Scan of a Fn calling a Vmap, specification variant: step 1 unconstrained (empty dict — the
    Vmap sub-call gets no constraint), step 2 fully constrained; both sides of
    `C02_generate_unbiased_partial` computed -/
example : lawExScan.condFree = true ∧ lawExScan.vmapOK Cfg.spec = true ∧
    E (lawExScan.generateD lawExPD lawExP Cfg.spec
        (some (.lanes (.cons "" (.node .nil) (.cons "" (lawExLane 1 1) .nil)))) lawExScanArgs)
      (optK fun tw => tw.2) = 275/1024 ∧
    E (lawExScan.simD lawExPD lawExP lawExScanArgs)
      (optK fun t => t.agS (.lanes (.cons "" (.node .nil) (.cons "" (lawExLane 1 1) .nil))))
      = 275/1024 := by
  decide +kernel

/-- the same constraint under the code as it is: `generate` raises on every run (the guard
    `vmapOK` fails: the Vmap has a mapped argument), expected weight 0 -/
example : lawExScan.vmapOK Cfg.asis = false ∧
    E (lawExScan.generateD lawExPD lawExP Cfg.asis
        (some (.lanes (.cons "" (.node .nil) (.cons "" (lawExLane 1 1) .nil)))) lawExScanArgs)
      (optK fun tw => tw.2) = 0 := by
  decide +kernel

/-- fully constrained (code as it is): the weight is the density of the constraint map,
    `1/4 · 5/8 · 1/2 · 5/8` -/
example :
    E (lawExScan.generateD lawExPD lawExP Cfg.asis (some (lawExScanX 1 0 1 1)) lawExScanArgs)
      (optK fun tw => tw.2) = 25/512 ∧
    pmassOf (lawExScan.assessP lawExPD (lawExScanX 1 0 1 1) lawExScanArgs) = 25/512 := by
  decide +kernel

/-! ### programs with Cond (not covered by the `_partial` theorems above; theorems: last part of
    this file): an instance with branches of the same shape, the counterexample for branches of
    different shapes -/

/-- an instance of `C02_generate_unbiased`, computed: a Cond whose branches have the same shape,
    `lawExCond`, constraint `{x: 1}`, false branch selected (three-valued primitive):
    `E[w] = 1/3 = P(x = 1)` -/
example :
    E (lawExCond.generateD lawExPD lawExP Cfg.asis
        (some (.node (.cons "x" (.leaf (.num 1)) .nil))) [.num 0]) (optK fun tw => tw.2) = 1/3 ∧
    E (lawExCond.simD lawExPD lawExP [.num 0])
      (optK fun t => t.agS (.node (.cons "x" (.leaf (.num 1)) .nil))) = 1/3 := by
  decide +kernel

/-- For a Cond whose branches have DIFFERENT shapes the weight is NOT unbiased for the marginal
    likelihood of the constraints under the distribution of the choice map `simulate` exposes.
    `lawExCondBad = cond(c, {x ~ coin}, {x ~ coin; y ~ coin})`, true branch selected, constraint
    `{y: 1}`: the selected branch has no site `y`, so `generate` returns weight 1 on every run
    (`E[w] = 1`), while the merged choice map of a simulated trace has `y = 1` with probability `1/2`
    (`y` is drawn by the hidden branch).  `generate` is consistent with `assess` (which ignores `y`
    here), not with the distribution of the merged choice map — the same discrepancy as
    `C01_simulate_law_fails_on_mixed_cond`. -/
theorem C02_generate_biased_on_mixed_cond :
    E (lawExCondBad.generateD lawExPD lawExP Cfg.asis
        (some (.node (.cons "y" (.leaf (.num 1)) .nil))) [.num 1]) (optK fun tw => tw.2) = 1 ∧
    E (lawExCondBad.simD lawExPD lawExP [.num 1])
      (optK fun t => match t.choices with
        | some y => if y.agreeWith (.node (.cons "y" (.leaf (.num 1)) .nil)) then 1 else 0
        | none => 0) = 1/2 := by
  decide +kernel

end Genjax

/-! ## the VALUES held by the generated trace
    (helper lemmas: Model/GfiPaths.lean, Proofs/GfiValues*.lean; notation as in Props/C03.lean) -/
namespace Genjax
variable {R : Type} [AddCommGroup R] (P : Prims R) (cfg : Cfg)

/-- Every constrained address that exists in the generated trace's choice map holds the constrained
    value — EVERY program (dist, fn, vmap, scan, cond at any depth: a constraint is handed to both
    branches of a Cond, so whichever is visible holds it), all arguments, every `cfg`. -/
theorem C02_generate_keeps_constraints (g : GF) (x : Option CM) (args : List Val) (t : Tr R) (w : R)
    (h : g.generate P cfg x args = some (t, w)) (y : CM) (hy : t.choices = some y)
    (p : Path) (v : Val) (hv : CM.leafAt? x p = some v) (v' : Val) (hv' : y.leafAt p = some v') :
    v' = v :=
  generate_keeps_constraints P cfg g x args t w h y hy p v hv v' hv'

/-- non-vacuity on `condExDeep`: constraints inside the Scan of a Cond and inside the Vmap of a Cond
    of a Cond (`genScen_spec`: generate is defined, `s.2.2` is the choice map) -/
example : ∃ s, genScen condExP Cfg.spec condExDeep (some valExX) condExDeepArgs = some s ∧
    (decide (CM.leafAt? (some valExX) valExPc = some (.num 10)) &&
     decide (s.2.2.leafAt valExPc = some (.num 10)) &&
     decide (CM.leafAt? (some valExX) valExPc' = some (.num 20)) &&
     decide (s.2.2.leafAt valExPc' = some (.num 20))) = true :=
  (Option.any_eq_true _ _).mp (by decide +kernel)

/-- Every value of the generated trace's choice map at an address the constraint does NOT mention is
    the sampler's draw `P.draw d params` for the Distribution `d` at that address and the parameters
    `params` the program computes from the trace's own values (`GF.siteAt`, threaded as `GF.Coh`
    threads them) — a draw from the conditional prior given the values it depends on.
    EVERY program — Cond at any depth included —, every constraint map (none, partial, whole
    sub-calls missing), arguments, `cfg`. -/
theorem C02_generate_unconstrained_are_draws (g : GF) (x : Option CM) (args : List Val) (t : Tr R)
    (w : R) (h : g.generate P cfg x args = some (t, w)) (y : CM) (hy : t.choices = some y)
    (p : Path) (hx : CM.leafAt? x p = none) (v : Val) (hv : y.leafAt p = some v) :
    ∃ d0 ps, g.siteAt args t p = some (d0, ps) ∧ v = P.draw d0 ps :=
  generate_unconstrained_are_draws P cfg g x args t w h y hy p hx v hv

/-- the same for `simulate` (which `generate` without constraints is): every value is a draw -/
theorem C02_simulate_values_are_draws (g : GF) (args : List Val) (t : Tr R)
    (h : g.simulate P args = some t) (y : CM) (hy : t.choices = some y) (p : Path) (v : Val)
    (hv : y.leafAt p = some v) : ∃ d0 ps, g.siteAt args t p = some (d0, ps) ∧ v = P.draw d0 ps :=
  simulate_are_draws P g args t h y hy p v hv

/-- If the constraint map `x` has every address of the generated trace's choice map `y`
    (`CM.Shape y x`: every dictionary key of `y`, at every depth, is bound in `x`; vectorised maps
    have the same number of lanes), the weight is exactly the log density `assess` returns on `y`
    (and `assess` returns the trace's return value): generate with a full constraint IS assess.
    Every program (Cond at any depth), arguments, `cfg`. -/
theorem C02_generate_full_weight (g : GF) (x : CM) (args : List Val) (t : Tr R) (w : R)
    (h : g.generate P cfg (some x) args = some (t, w)) (y : CM) (hy : t.choices = some y)
    (hcov : CM.Shape y x) : g.assess P y args = some (w, t.retval) :=
  generate_full_weight P cfg g x args t w h y hy hcov

/-- the same with coverage stated on the program's static skeleton: `x` binds every address of the
    program (`g.skel = some sk`, `CM.Shape sk x`) -/
theorem C02_generate_full_weight_skel (g : GF) (sk : CM) (hsk : g.skel = some sk)
    (x : CM) (hcov : CM.Shape sk x) (args : List Val) (t : Tr R) (w : R)
    (h : g.generate P cfg (some x) args = some (t, w)) :
    ∃ y, t.choices = some y ∧ g.assess P y args = some (w, t.retval) :=
  generate_full_weight_skel P cfg g sk hsk x hcov args t w h

/-- non-vacuity of `C02_generate_unconstrained_are_draws` on `condExDeep` with a sampler that depends
    on its arguments: the unconstrained `s/2/x` (inside the Scan of a Cond) is Distribution 1 with
    parameter 9 (the carry) and holds its draw 13; `v/1/x` is Distribution 1 with parameter 52 -/
example : ∃ s, genScen valExP Cfg.spec condExDeep (some valExX) condExDeepArgs = some s ∧
    (decide (CM.leafAt? (some valExX) [.key "s", .idx 2, .key "x"] = none) &&
     decide (s.2.2.leafAt [.key "s", .idx 2, .key "x"] = some (.num 13)) &&
     decide (condExDeep.siteAt condExDeepArgs s.1 [.key "s", .idx 2, .key "x"]
       = some (1, [.num 9])) &&
     decide (valExP.draw 1 [.num 9] = .num 13) &&
     decide (s.2.2.leafAt [.key "v", .idx 1, .key "x"] = some (.num 56)) &&
     decide (condExDeep.siteAt condExDeepArgs s.1 [.key "v", .idx 1, .key "x"]
       = some (1, [.num 52]))) = true :=
  (Option.any_eq_true _ _).mp (by decide +kernel)

/-- non-vacuity of `C02_generate_full_weight` / `_skel`: generating `condExDeep` under OTHER arguments
    with that full constraint is defined, the constraint covers the skeleton, and the weight 75 is
    what `assess` returns -/
example : ∃ x, fullExX = some x ∧ ∃ s, genScen condExP Cfg.spec condExDeep (some x) valExArgs = some s ∧
    (decide (s.2.1 = 75) &&
     decide ((condExDeep.assess condExP s.2.2 valExArgs).map (·.1) = some 75) &&
     decide (x.skel = s.2.2.skel) && decide (condExDeep.skel = some x.skel)) = true := by
  have h : (fullExX.any fun x =>
      (genScen condExP Cfg.spec condExDeep (some x) valExArgs).any fun s =>
        (decide (s.2.1 = 75) &&
         decide ((condExDeep.assess condExP s.2.2 valExArgs).map (·.1) = some 75) &&
         decide (x.skel = s.2.2.skel) && decide (condExDeep.skel = some x.skel))) = true := by
    decide +kernel
  obtain ⟨x, hx, h2⟩ := (Option.any_eq_true _ _).mp h
  exact ⟨x, hx, (Option.any_eq_true _ _).mp h2⟩

end Genjax

/-! ## `generate` is properly weighted for programs WITH COND
    (proofs: Proofs/GfiGenSupp.lean, Proofs/GfiGenLawCond.lean, Proofs/GfiGenLawCondSum.lean;
    notation as above).

    The `_partial` theorems above assume `g.condFree`.  Here `condFree` is replaced by
    `g.condOK = true` (at every Cond the two branches have the same static choice-map skeleton and no
    address collision) plus `pd.Normalised` (every primitive has total mass 1 — needed to marginalise
    the unconstrained draws of the HIDDEN branch: `Cond.generate` runs both branches under the
    constraint and returns the taken branch's weight only).  Mixed-shape Conds are excluded for a
    reason: `C02_generate_biased_on_mixed_cond`. -/
namespace Genjax
open Smc Smc.FinDist

section C02LawCond
variable {K : Type} [Field K] {R : Type} [AddCommGroup R] (pd : PD K) (P : Prims R) (cfg : Cfg)

/-- **Proper weighting outcome by outcome — every program whose Conds are `condOK`** (Cond at any
    depth: under Fn, Vmap, Scan, nested).  For every constraint map `ox` (none, partial, full, or of
    the wrong kind), every argument list and every complete choice map `y` of the program's shape,
    `E_{(t,w) ∼ generate}[w · 1{choices t = y}]` is the density `assessP y` if `y` is a completion of
    the constraints and 0 otherwise.  (Cond-free programs without `hnorm`:
    `C02_generate_pointwise_partial`.) -/
theorem C02_generate_pointwise (hpd : pd.WF) (hnorm : pd.Normalised) (g : GF)
    (hc : g.condOK = true) (hv : g.vmapOK cfg = true) (ox : Option CM) (args : List Val) (y : CM)
    (hs : g.skel = some y.skel) :
    E (g.generateD pd P cfg ox args) (optK fun tw => if tw.1.choices = some y then tw.2 else 0)
      = agO ox y * pmassOf (g.assessP pd y args) :=
  generateD_pointwise_cond pd P cfg hpd hnorm g hc hv ox args y hs

/-- the same with a function `ψ` of the return value: the return value `generate` reports on the
    choice map `y` is the one `assess` reports -/
theorem C02_generate_pointwise_retval (hpd : pd.WF) (hnorm : pd.Normalised) (g : GF)
    (hc : g.condOK = true) (hv : g.vmapOK cfg = true) (ox : Option CM) (args : List Val) (y : CM)
    (ψ : Val → K) (hs : g.skel = some y.skel) :
    E (g.generateD pd P cfg ox args) (optK fun tw => tw.2 * choicesAre y ψ tw.1)
      = agO ox y * massOf (g.assessP pd y args) ψ :=
  genlaw_gf pd P cfg hpd hnorm g hc hv ox args y ψ hs

/-- **Proper weighting in test-function form — programs with Cond**: for every function `F` of the
    OBSERVABLE trace (choice map `get_choices()` and return value; `obsF F t = F y t.retval` when
    `t.choices = some y`, and 0 when `get_choices()` raises — it never does on these programs),
    `E_{(t,w) ∼ generate}[w · F(t)] = E_{t ∼ simulate}[1{t agrees with the constraints} · F(t)]`.
    For Cond-free programs `C02_generate_proper_weight_partial` has this for every function of the
    trace; with Cond that stronger form is FALSE (`C02_generate_hidden_branch_not_prior`): the hidden
    branch's trace is not distributed as under `simulate`. -/
theorem C02_generate_proper_weight (hpd : pd.WF) (hnorm : pd.Normalised) (g : GF)
    (hc : g.condOK = true) (hv : g.vmapOK cfg = true) (ox : Option CM) (args : List Val)
    (F : CM → Val → K) :
    E (g.generateD pd P cfg ox args) (optK fun tw => tw.2 * obsF F tw.1)
      = E (g.simD pd P args) (optK fun t => t.agT ox * obsF F t) :=
  generateD_law_obs pd P cfg hpd hnorm g hc hv ox args F

/-- **E[weight] = marginal likelihood of the constraints — programs with Cond**: the expected
    importance weight is the probability, under the program's own distribution (`simD`, whose law is
    the density `assess` computes: `C01_simulate_law`), that the trace takes the constrained values.
    (Cond-free programs without `hnorm`: `C02_generate_unbiased_partial`.) -/
theorem C02_generate_unbiased (hpd : pd.WF) (hnorm : pd.Normalised) (g : GF)
    (hc : g.condOK = true) (hv : g.vmapOK cfg = true) (x : CM) (args : List Val) :
    E (g.generateD pd P cfg (some x) args) (optK fun tw => tw.2)
      = E (g.simD pd P args) (optK fun t => t.agS x) :=
  generateD_unbiased_cond pd P cfg hpd hnorm g hc hv x args

/-- each complete choice map `y` of the program's shape contributes to that marginal likelihood its
    density `assessP y` if it is a completion of `x`, and nothing otherwise (Cond-free
    programs without `hnorm`: `C02_completion_mass_partial`) -/
theorem C02_completion_mass (hpd : pd.WF) (hnorm : pd.Normalised) (g : GF) (hc : g.condOK = true)
    (x y : CM) (args : List Val) (hs : g.skel = some y.skel) :
    E (g.simD pd P args) (optK fun t => if t.choices = some y then t.agS x else 0)
      = if y.agreeWith x then pmassOf (g.assessP pd y args) else 0 :=
  simD_completion_mass pd P hpd g (lawHyp_of_condOK_gf pd P hnorm g hc) hc x y args hs

/-- **E[weight] = Σ over the completions `y ⊇ x` of `assessP y` — programs with Cond**, for any list
    `ys` of distinct choice maps of the program's shape containing every choice map `simulate` can
    produce (`coversB` is an executable check of that).  (Cond-free programs without `hnorm`:
    `C02_generate_unbiased_sum_partial`.) -/
theorem C02_generate_unbiased_sum (hpd : pd.WF) (hnorm : pd.Normalised) (g : GF)
    (hc : g.condOK = true) (hv : g.vmapOK cfg = true) (x : CM) (args : List Val) (ys : List CM)
    (hnd : ys.Nodup)
    (hcov : ∀ t, some t ∈ supp (g.simD pd P args) → ∃ y ∈ ys, t.choices = some y)
    (hshape : ∀ y ∈ ys, g.skel = some y.skel) :
    E (g.generateD pd P cfg (some x) args) (optK fun tw => tw.2)
      = sumK (ys.map fun y => if y.agreeWith x then pmassOf (g.assessP pd y args) else 0) :=
  generateD_unbiased_sum_cond pd P cfg hpd hnorm g hc hv x args ys hnd hcov hshape

/-- **`generate` never raises under a completable constraint**: on a program without address
    collisions whose Conds are `condOK` and whose Vmaps accept an empty constraint, if the constraint
    map `ox` has a completion `y` of the program's shape (`agOb ox y`: no constraint, or
    `y.agreeWith x`), every run of `generate` returns — the successful outcomes carry all the mass.
    (This is what the hidden branch of a Cond needs.) -/
theorem C02_generate_defined_on_completable (hnorm : pd.Normalised) (g : GF)
    (hn : g.noCollide = true) (hc : g.condOK = true) (hv : g.vmapOK cfg = true) (ox : Option CM)
    (y : CM) (args : List Val) (hs : g.skel = some y.skel) (ha : agOb ox y = true) :
    none ∉ supp (g.generateD pd P cfg ox args) ∧
      E (g.generateD pd P cfg ox args) (optK fun _ => (1 : K)) = 1 :=
  ⟨generateD_nofail pd P cfg g hn hc hv ox y args hs ha,
    generateD_mass_some pd P cfg hnorm g hn hc hv ox y args hs ha⟩

/-- every trace `generate` can return (any program, any constraint) has a choice map with the
    program's static skeleton — the distributional form of `C02_generate_choices_skel` -/
theorem C02_generateD_choices_skel (g : GF) (ox : Option CM) (args : List Val) (tw : Tr R × K)
    (h : some tw ∈ supp (g.generateD pd P cfg ox args)) : tw.1.choices.map CM.skel = g.skel :=
  generateD_choices_skel pd P cfg g ox args tw h

end C02LawCond

/-! ### non-vacuity (exact rationals) -/

/-- a Scan whose step is a same-shape Cond: the carry (the previous draw) is the check;
    true branch `x ~ coin(1/4)`, false branch `x ~ three-valued`; both return `(x, ·)` -/
def lawExCondStep : GF :=
  .cond (.fn (.call "x" (.dist 0) [.const (1/4)] (.ret (.pair (.var 1) (.var 1)))))
        (.fn (.call "x" (.dist 1) [] (.ret (.pair (.var 1) (.add (.var 1) (.const 10))))))

def lawExCondScan : GF := .scan lawExCondStep 2

def lawExCondScanArgs : List Val := [.num 1, Val.ofList [.num 0, .num 0]]

def lawExCondScanX (a b : Rat) : CM :=
  .lanes (.cons "" (.node (.cons "x" (.leaf (.num a)) .nil))
    (.cons "" (.node (.cons "x" (.leaf (.num b)) .nil)) .nil))

/-- step 1 unconstrained (empty dict), step 2 constrained to `x = 1` -/
def lawExCondScanC : CM :=
  .lanes (.cons "" (.node .nil) (.cons "" (.node (.cons "x" (.leaf (.num 1)) .nil)) .nil))

/-- Same-shape Cond UNDER SCAN: all hypotheses of `C02_generate_unbiased` / `C02_generate_pointwise`
    hold and both sides are computed.  Step 1 takes the true branch (`x₁ = 1` w.p. 1/4); step 2 takes
    the true branch if `x₁ = 1` (then `P(x₂ = 1) = 1/4`) and the false branch otherwise
    (`P(x₂ = 1) = 1/3`): `E[w] = 1/4·1/4 + 3/4·1/3 = 5/16 = P(x₂ = 1)`; and pointwise at
    `y = (x₁, x₂) = (0, 1)`: `E[w·1{choices = y}] = 3/4·1/3 = 1/4 = assessP y`, at `y = (0, 2)` (not a
    completion) both sides are 0. -/
example : lawExPD.WF ∧ lawExPD.Normalised ∧ lawExCondScan.condOK = true ∧
    lawExCondScan.vmapOK Cfg.asis = true ∧
    lawExCondScan.skel = some (lawExCondScanX 0 1).skel ∧
    E (lawExCondScan.generateD lawExPD lawExP Cfg.asis (some lawExCondScanC) lawExCondScanArgs)
      (optK fun tw => tw.2) = 5/16 ∧
    E (lawExCondScan.simD lawExPD lawExP lawExCondScanArgs) (optK fun t => t.agS lawExCondScanC)
      = 5/16 ∧
    E (lawExCondScan.generateD lawExPD lawExP Cfg.asis (some lawExCondScanC) lawExCondScanArgs)
      (optK fun tw => if tw.1.choices = some (lawExCondScanX 0 1) then tw.2 else 0) = 1/4 ∧
    agO (some lawExCondScanC) (lawExCondScanX 0 1)
      * pmassOf (lawExCondScan.assessP lawExPD (lawExCondScanX 0 1) lawExCondScanArgs) = 1/4 ∧
    E (lawExCondScan.generateD lawExPD lawExP Cfg.asis (some lawExCondScanC) lawExCondScanArgs)
      (optK fun tw => if tw.1.choices = some (lawExCondScanX 0 2) then tw.2 else 0) = 0 ∧
    agO (some lawExCondScanC) (lawExCondScanX 0 2)
      * pmassOf (lawExCondScan.assessP lawExPD (lawExCondScanX 0 2) lawExCondScanArgs) = 0 := by
  exact ⟨lawExPD_wf, lawExPD_normalised, by decide +kernel⟩

/-- the five complete choice maps `simulate` can produce for `lawExCondScan` on `lawExCondScanArgs`
    (`x₁ ∈ {0, 1}`; `x₂ ∈ {0, 1}` after `x₁ = 1`, `x₂ ∈ {0, 1, 2}` after `x₁ = 0`) -/
def lawExCondScanYs : List CM :=
  [lawExCondScanX 0 0, lawExCondScanX 0 1, lawExCondScanX 0 2, lawExCondScanX 1 0,
   lawExCondScanX 1 1]

/-- all hypotheses of `C02_generate_unbiased_sum` on the Scan of a Cond, and the sum computed:
    `Σ_{y ⊇ x} assessP y = 3/4·1/3 + 1/4·1/4 = 5/16 = E[w]` (previous example) -/
example : lawExCondScanYs.Nodup ∧
    (∀ t, some t ∈ supp (lawExCondScan.simD lawExPD lawExP lawExCondScanArgs) →
      ∃ y ∈ lawExCondScanYs, t.choices = some y) ∧
    (∀ y ∈ lawExCondScanYs, lawExCondScan.skel = some y.skel) ∧
    sumK (lawExCondScanYs.map fun y => if y.agreeWith lawExCondScanC
      then pmassOf (lawExCondScan.assessP lawExPD y lawExCondScanArgs) else 0) = 5/16 := by
  exact ⟨by decide +kernel, covers_of_coversB _ _ (by decide +kernel), by decide +kernel⟩

/-- Cond at top level (`lawExCond`, false branch selected, constraint `{x: 1}`): hypotheses and both
    sides of `C02_generate_unbiased`; and `C02_generate_defined_on_completable`'s hypotheses -/
example : lawExCond.condOK = true ∧ lawExCond.noCollide = true ∧
    lawExCond.vmapOK Cfg.asis = true ∧
    lawExCond.skel = some (CM.node (.cons "x" (.leaf (.num 1)) .nil)).skel ∧
    agOb (some (.node (.cons "x" (.leaf (.num 1)) .nil)))
      (.node (.cons "x" (.leaf (.num 1)) .nil)) = true ∧
    E (lawExCond.generateD lawExPD lawExP Cfg.asis
        (some (.node (.cons "x" (.leaf (.num 1)) .nil))) [.num 0]) (optK fun tw => tw.2) = 1/3 ∧
    E (lawExCond.simD lawExPD lawExP [.num 0])
      (optK fun t => t.agS (.node (.cons "x" (.leaf (.num 1)) .nil))) = 1/3 ∧
    E (lawExCond.generateD lawExPD lawExP Cfg.asis
        (some (.node (.cons "x" (.leaf (.num 1)) .nil))) [.num 0]) (optK fun _ => (1 : ℚ)) = 1 := by
  decide +kernel

/-- `C02_generate_proper_weight` with a non-constant observable: `F(choices, retval) = retval`.
    False branch selected, `x` constrained to 1, return value `x + 10 = 11`:
    `E_gen[w · retval] = 1/3 · 11 = E_sim[1{x = 1} · retval]` -/
example :
    E (lawExCond.generateD lawExPD lawExP Cfg.asis
        (some (.node (.cons "x" (.leaf (.num 1)) .nil))) [.num 0])
      (optK fun tw => tw.2 * obsF (fun _ r => r.toRat) tw.1) = 11/3 ∧
    E (lawExCond.simD lawExPD lawExP [.num 0])
      (optK fun t => t.agT (some (.node (.cons "x" (.leaf (.num 1)) .nil)))
        * obsF (fun _ r => r.toRat) t) = 11/3 := by
  decide +kernel

/-- test function looking INSIDE a Cond trace: 1 if the TRUE-branch trace holds `x = 1` -/
def hiddenIsOne (t : Tr ℤ) : ℚ :=
  match t with
  | .cond _ a _ => if a.choices = some (.node (.cons "x" (.leaf (.num 1)) .nil)) then 1 else 0
  | _ => 0

/-- With a Cond, proper weighting does NOT hold against arbitrary functions of the trace (it does
    for Cond-free programs, `C02_generate_proper_weight_partial`), only against functions of the
    observable trace (`C02_generate_proper_weight`).  `lawExCond`, false branch selected, constraint
    `{x: 1}`: `generate` hands the constraint to the hidden true branch too, whose trace then holds
    `x = 1` on every run, while under `simulate` the hidden branch draws `x = 1` with probability
    `1/3`: `E_gen[w·φ] = 1/3 ≠ 1/9 = E_sim[1{agrees}·φ]` for `φ = hiddenIsOne`. -/
theorem C02_generate_hidden_branch_not_prior :
    lawExCond.condOK = true ∧
    E (lawExCond.generateD lawExPD lawExP Cfg.asis
        (some (.node (.cons "x" (.leaf (.num 1)) .nil))) [.num 0])
      (optK fun tw => tw.2 * hiddenIsOne tw.1) = 1/3 ∧
    E (lawExCond.simD lawExPD lawExP [.num 0])
      (optK fun t => t.agS (.node (.cons "x" (.leaf (.num 1)) .nil)) * hiddenIsOne t) = 1/9 := by
  decide +kernel

end Genjax

import GenjaxModel.Proofs.Sel
/-!
# C16 — Selections are a Boolean algebra on addresses; filter partitions the choices

`Sel.selected s p` is the model of "address path `p` is selected by `s`": thread the
remainder of `Selection.match` down the path and decide at the leaf with `() in s`
(exactly what `Regenerate`/`Distribution.regenerate` do, core.py:2073, 1645).
All statements hold for every selection expression, every path, every choice map.
-/
namespace Genjax

/-- `s | t` selects a path iff `s` or `t` does. -/
theorem C16_union (s t : Sel) (p : List String) :
    (Sel.union s t).selected p = (s.selected p || t.selected p) := selected_union s t p

/-- the intersection selects a path iff both do. -/
theorem C16_inter (s t : Sel) (p : List String) :
    (Sel.inter s t).selected p = (s.selected p && t.selected p) := selected_inter s t p

/-- `~s` selects a path iff `s` does not. -/
theorem C16_compl (s : Sel) (p : List String) :
    (Sel.compl s).selected p = !s.selected p := selected_compl s p

/-- `sel()` never selects. -/
theorem C16_none (p : List String) : Sel.none.selected p = false := selected_none p

/-- `sel(())` always selects. -/
theorem C16_all (p : List String) : Sel.all.selected p = true := selected_all p

/-- `sel("a")` selects everything under `a` (and nothing else; not the root). -/
theorem C16_str (a : String) (p : List String) :
    (Sel.str a).selected p = match p with | [] => false | k :: _ => decide (k = a) :=
  selected_str a p

/-- `sel(("a","b",…))` selects exactly the sub-tree below that (non-empty) path. -/
theorem C16_tup (q p : List String) :
    (Sel.tup q).selected p = (!q.isEmpty && q.isPrefixOf p) := selected_tup q p

/-- dict selections delegate per key. -/
theorem C16_dict (d : DSel) (k : String) (p : List String) :
    (Sel.dict d).selected (k :: p) = (d.lookup k).2.selected p := rfl

theorem C16_dict_root (d : DSel) : (Sel.dict d).selected [] = false := rfl

theorem C16_dict_missing (d : DSel) (k : String) (p : List String)
    (h : (d.lookup k).1 = false) : (Sel.dict d).selected (k :: p) = false :=
  lookup_miss_selected d k h p

/-- De Morgan, as a corollary. -/
theorem C16_de_morgan (s t : Sel) (p : List String) :
    (Sel.compl (Sel.union s t)).selected p
      = (Sel.inter (Sel.compl s) (Sel.compl t)).selected p := by
  rw [C16_compl, C16_union, C16_inter, C16_compl, C16_compl, Bool.not_or]

/-- Specification filter: the first part holds exactly the selected leaves, the second
    exactly the others (so the parts are disjoint and together are all of `x`). -/
theorem C16_filter_partition (x : ChmL) (s : Sel) :
    (x.filterSpec s).1.leaves = x.leaves.filter (fun e => s.selected e.1) ∧
    (x.filterSpec s).2.leaves = x.leaves.filter (fun e => !s.selected e.1) :=
  filterSpec_leaves x s

/-- `Fn.filter` **as written** coincides with the specification filter whenever the hit
    flag is sound for the map at hand (decidable predicate `flagSound`).
    `_partial`: without the side condition the statement is false, see `C16_filter_asis_cex`. -/
theorem C16_filter_asis_partial (x : ChmL) (s : Sel)
    (hne : x.noEmpty = true) (h : x.flagSound s = true) :
    x.filterAsis s = x.filterSpec s := filterAsis_eq_filterSpec x s hne h

/-- For complement-free selections a flag miss does mean "nothing below is selected". -/
theorem C16_complFree_miss (s : Sel) (k : String) (h : s.complFree = true)
    (hm : (s.matchAddr k).1 = false) (p : List String) : s.selected (k :: p) = false :=
  complFree_miss s k h hm p

/-- Proved counterexample: with `~sel(("a","b"))` on `{a:{b:1,c:2}, d:3}` the code's
    filter puts `a/c` into the *unselected* part although the path is selected
    (and `regenerate` would resample it). Replayed on the implementation by the harness. -/
theorem C16_filter_asis_cex :
    let x : ChmL := .cons "a" (.node (.cons "b" (.leaf 1) (.cons "c" (.leaf 2) .nil)))
                      (.cons "d" (.leaf 3) .nil)
    let s : Sel := .compl (.tup ["a", "b"])
    s.selected ["a", "c"] = true ∧
    ((x.filterAsis s).1.leaves.map (·.1)) = [["d"]] ∧
    ((x.filterSpec s).1.leaves.map (·.1)) = [["a", "c"], ["d"]] := by
  decide +kernel

/-- Second counterexample: a selection that reaches deeper than the map. `sel(("a","b"))`
    on `{a: leaf}`: the code's filter selects leaf `a`, the path `a` is not selected. -/
theorem C16_filter_asis_cex_deep :
    let x : ChmL := .cons "a" (.leaf 1) .nil
    let s : Sel := .tup ["a", "b"]
    s.selected ["a"] = false ∧ (x.filterAsis s).1.leaves.map (·.1) = [["a"]] := by
  decide +kernel

/-- non-vacuity: the hypotheses of `C16_filter_asis_partial` are met by a non-trivial case. -/
example :
    let x : ChmL := .cons "a" (.node (.cons "b" (.leaf 1) (.cons "c" (.leaf 2) .nil)))
                      (.cons "d" (.leaf 3) .nil)
    let s : Sel := .union (.tup ["a", "b"]) (.str "d")
    x.noEmpty = true ∧ x.flagSound s = true ∧ (x.filterAsis s).1.leaves.length = 2 := by
  decide +kernel

end Genjax

import GenjaxModel.Proofs.GfiRegen
import GenjaxModel.Proofs.GfiValues
import GenjaxModel.Proofs.GfiRegenMH
import GenjaxModel.Proofs.GfiAssessCond
/-!
# C04 — regenerate resamples exactly the selection and returns the MH weight
-/
namespace Genjax
variable {R : Type} [AddCommGroup R] (P : Prims R) (cfg : Cfg)

/-- regenerate returns a coherent trace under the (possibly new) arguments -/
theorem C04_regenerate_coherent (g : GF) (t : Tr R) (s : Sel) (args : List Val) (t' : Tr R) (w : R)
    (d : Option CM) (h : g.regenerate P cfg t s args = some (t', w, d)) : g.Coh P args t' :=
  regenerate_coh P cfg g t s args t' w d h

/-- Whenever no Cond switches branch: weight = change of the joint score minus the change of the
    score of the selected choices (`selScore` threads the selection exactly like `regenerate`). -/
theorem C04_regenerate_weight
    (g : GF) (args0 : List Val) (t : Tr R) (ht : g.Coh P args0 t)
    (s : Sel) (args : List Val) (t' : Tr R) (w : R) (d : Option CM)
    (h : g.regenerate P cfg t s args = some (t', w, d)) (hs : Tr.sameChecks t t') :
    w = (t.score + -t'.score) + -(g.selScore t s + -(g.selScore t' s)) :=
  regenerate_weight_noswitch P cfg g args0 t ht s args t' w d h hs

/-- empty selection, unchanged arguments: weight 0, score and retval unchanged … -/
theorem C04_regenerate_empty_selection
    (g : GF) (args : List Val) (t : Tr R) (ht : g.Coh P args t)
    (s : Sel) (hsel : ∀ p, s.selected p = false) (t' : Tr R) (w : R) (d : Option CM)
    (h : g.regenerate P cfg t s args = some (t', w, d)) :
    w = 0 ∧ t'.score = t.score ∧ t'.retval = t.retval :=
  regenerate_none_core P cfg g args t ht s hsel t' w d h

/-- … and the trace itself is unchanged (bit-identical), for every trace in canonical form —
    which every trace built by simulate/generate/update/regenerate is (`C04_ops_canonical`). -/
theorem C04_regenerate_empty_selection_identity
    (g : GF) (args : List Val) (t : Tr R) (ht : g.Coh P args t) (hcan : g.Canon t)
    (s : Sel) (hsel : ∀ p, s.selected p = false) (t' : Tr R) (w : R) (d : Option CM)
    (h : g.regenerate P cfg t s args = some (t', w, d)) : t' = t :=
  regenerate_none_eq P cfg g args t ht hcan s hsel t' w d h

/-- every trace one of the four operations returns has canonical shape (`GF.Canon`: one entry per
    call site in program order, lanes and steps keyed `""`), the hypothesis `hcan` of the identity
    and value statements of this file -/
theorem C04_ops_canonical (g : GF) :
    (∀ args (t : Tr R), g.simulate P args = some t → g.Canon t) ∧
    (∀ x args (t : Tr R) w, g.generate P cfg x args = some (t, w) → g.Canon t) ∧
    (∀ (t : Tr R) x args t' w d, g.update P cfg t x args = some (t', w, d) → g.Canon t') ∧
    (∀ (t : Tr R) s args t' w d, g.regenerate P cfg t s args = some (t', w, d) → g.Canon t') :=
  ⟨simulate_canon P g, generate_canon P cfg g, update_canon P cfg g, regenerate_canon P cfg g⟩

/-- without the canonical-form hypothesis the identity claim is false (junk entry in the old trace) -/
theorem C04_regenerate_empty_selection_needs_canonical :
    ∃ (g : GF) (args : List Val) (t : Tr R) (s : Sel) (t' : Tr R) (w : R) (d : Option CM),
      g.Coh P args t ∧ (∀ p, s.selected p = false) ∧
      g.regenerate P cfg t s args = some (t', w, d) ∧ t'.choices ≠ t.choices :=
  regenerate_none_counterexample P cfg

/-- everything selected (and no Cond switch): weight 0 -/
theorem C04_regenerate_all_selected
    (g : GF) (t : Tr R) (s : Sel) (hsel : ∀ p, s.selected p = true) (args : List Val)
    (t' : Tr R) (w : R) (d : Option CM)
    (h : g.regenerate P cfg t s args = some (t', w, d)) (hns : Tr.sameChecks t t') : w = 0 :=
  regenerate_all_partial P cfg g t s hsel args t' w d h (Or.inr hns)

/-- The no-switch hypothesis cannot be dropped for the branch-switch-corrected Cond: a switch with
    everything selected gives a non-zero weight (outside the property's claim; recorded as a limit
    of the repaired Cond.regenerate in DESIGN.md). -/
theorem C04_regenerate_all_selected_switch_cex (x : R) (hx : x ≠ 0) :
    ∃ (P : Prims R) (cfg : Cfg) (g : GF) (args0 : List Val) (t : Tr R) (s : Sel) (args : List Val)
      (t' : Tr R) (w : R) (d : Option CM),
      g.Coh P args0 t ∧ (∀ p, s.selected p = true) ∧
      g.regenerate P cfg t s args = some (t', w, d) ∧ w ≠ 0 :=
  regenerate_all_counterexample x hx

/-- the code before the repair (`scanRegenDefined = false`) was undefined on every Scan trace -/
theorem C04_scan_regenerate_asis_undefined (g : GF) (n : Nat) (steps : TrL R) (c : Val) (s : Sel)
    (args : List Val) :
    (GF.scan g n).regenerate P Cfg.asis (.scan steps c) s args = none := by
  simp [GF.regenerate, Cfg.asis]

end Genjax

/-! ## The VALUES held by the regenerated trace and by the discard

  Helper lemmas: `Model/GfiPaths.lean`, `Proofs/GfiValues*.lean`; notation as in `Props/C03.lean`.
  `Sel.selectedPath s p`: the selection `s` selects the address `p` — the remainder of the
  selection is threaded along the dictionary keys of `p` with `Sel.matchAddr` exactly as the
  Regenerate handler does, lane / step indices do not consume it, the decision is `() in s` at the
  leaf. -/
namespace Genjax
variable {R : Type} [AddCommGroup R] (P : Prims R) (cfg : Cfg)

/-- Every address the selection does not select keeps its value bit-identically (as an `Option`: it
    also stays present / absent), provided no Cond switched branch — EVERY program (dist, fn, vmap,
    scan, cond at any depth), every selection expression, every (new) arguments, every `cfg`.
    `hcan`: the old trace has the shape the operations build (`C04_ops_canonical`). -/
theorem C04_regenerate_unselected_unchanged (g : GF) (t : Tr R) (s : Sel) (args : List Val)
    (t' : Tr R) (w : R) (d : Option CM) (h : g.regenerate P cfg t s args = some (t', w, d))
    (hcan : g.Canon t) (hs : Tr.sameChecks t t')
    (y y' : CM) (hy : t.choices = some y) (hy' : t'.choices = some y')
    (p : Path) (hp : s.selectedPath p = false) : y'.leafAt p = y.leafAt p :=
  regenerate_unselected_unchanged P cfg g t s args t' w d h hcan hs y y' hy hy' p hp

/-- `regenerate` neither adds nor removes addresses -/
theorem C04_regenerate_leaf_domain (g : GF) (t : Tr R) (s : Sel) (args : List Val)
    (t' : Tr R) (w : R) (d : Option CM) (h : g.regenerate P cfg t s args = some (t', w, d))
    (hcan : g.Canon t) (y y' : CM) (hy : t.choices = some y) (hy' : t'.choices = some y')
    (p : Path) : (y'.leafAt p).isSome = (y.leafAt p).isSome :=
  regenerate_leaf_domain P cfg g t s args t' w d h hcan y y' hy hy' p

/-- Repaired `Cond.regenerate` (`cfg.condDiscardVisible`): the discard holds the old visible value
    of EXACTLY the selected (resampled) addresses — at a selected address the old value, at every
    other path nothing.  Every program, selection, arguments; also across Cond branch switches. -/
theorem C04_regenerate_discard_selected (hdv : cfg.condDiscardVisible = true)
    (g : GF) (t : Tr R) (s : Sel) (args : List Val)
    (t' : Tr R) (w : R) (d : Option CM) (h : g.regenerate P cfg t s args = some (t', w, d))
    (hcan : g.Canon t) (y y' : CM) (hy : t.choices = some y) (hy' : t'.choices = some y')
    (p : Path) : CM.leafAt? d p = if s.selectedPath p then y.leafAt p else none :=
  regenerate_discard_selected P cfg hdv g t s args t' w d h hcan y y' hy hy' p

/-- non-vacuity on `condExDeep` (Scan of a Cond, Vmap of a Cond of a Cond), sampler depending on
    the arguments, new arguments that keep the Cond checks, selection `("s","x") | ("v","y")`:
    the hypotheses of the three theorems hold (`regenScen_spec`); the unselected `s/0/y` and `v/1/x`
    keep 13 and 46, the selected `s/0/x` changes from 11 to 5, and the discard holds 11 at `s/0/x`
    and nothing at `s/0/y`. -/
example : ∃ s, regenScen valExP Cfg.spec condExDeep condExDeepArgs valExSel valExArgs3 = some s ∧
    (Tr.sameChecksB s.t s.t' &&
     !(valExSel.selectedPath [.key "s", .idx 0, .key "y"]) &&
     decide (s.y.leafAt [.key "s", .idx 0, .key "y"] = some (.num 13)) &&
     decide (s.y'.leafAt [.key "s", .idx 0, .key "y"] = some (.num 13)) &&
     !(valExSel.selectedPath [.key "v", .idx 1, .key "x"]) &&
     decide (s.y.leafAt [.key "v", .idx 1, .key "x"] = some (.num 46)) &&
     decide (s.y'.leafAt [.key "v", .idx 1, .key "x"] = some (.num 46)) &&
     valExSel.selectedPath [.key "s", .idx 0, .key "x"] &&
     decide (s.y.leafAt [.key "s", .idx 0, .key "x"] = some (.num 11)) &&
     decide (s.y'.leafAt [.key "s", .idx 0, .key "x"] = some (.num 5)) &&
     decide (CM.leafAt? s.d [.key "s", .idx 0, .key "x"] = some (.num 11)) &&
     decide (CM.leafAt? s.d [.key "s", .idx 0, .key "y"] = none)) = true :=
  (Option.any_eq_true _ _).mp (by decide +kernel)

/-- Every value visible at a SELECTED address of the regenerated trace is the sampler's draw
    `P.draw d params` for the Distribution `d` at that address and the parameters `params` that the
    program computes from the NEW trace's own values under the new arguments (`GF.siteAt`) — a fresh
    draw from the conditional prior given the (possibly new) values it depends on.  Every program
    (Cond at any depth, also across branch switches), every selection, arguments, `cfg`. -/
theorem C04_regenerate_selected_are_draws (g : GF) (t : Tr R) (s : Sel) (args : List Val)
    (t' : Tr R) (w : R) (d : Option CM) (h : g.regenerate P cfg t s args = some (t', w, d))
    (y' : CM) (hy' : t'.choices = some y') (p : Path) (hp : s.selectedPath p = true)
    (v : Val) (hv : y'.leafAt p = some v) :
    ∃ d0 ps, g.siteAt args t' p = some (d0, ps) ∧ v = P.draw d0 ps :=
  regenerate_selected_are_draws P cfg g t s args t' w d h y' hy' p hp v hv

/-- non-vacuity: in the scenario above the selected `s/2/x` (step 2 of the Scan of a Cond) is
    Distribution 1 with the NEW carry 3 as parameter and holds its draw 7 (it held 13); the selected
    `v/1/y` is Distribution 5 with parameter 5 and holds 13 -/
example : ∃ s, regenScen valExP Cfg.spec condExDeep condExDeepArgs valExSel valExArgs3 = some s ∧
    (valExSel.selectedPath [.key "s", .idx 2, .key "x"] &&
     decide (s.y.leafAt [.key "s", .idx 2, .key "x"] = some (.num 13)) &&
     decide (s.y'.leafAt [.key "s", .idx 2, .key "x"] = some (.num 7)) &&
     decide (condExDeep.siteAt valExArgs3 s.t' [.key "s", .idx 2, .key "x"] = some (1, [.num 3])) &&
     decide (valExP.draw 1 [.num 3] = .num 7) &&
     valExSel.selectedPath [.key "v", .idx 1, .key "y"] &&
     decide (s.y'.leafAt [.key "v", .idx 1, .key "y"] = some (.num 13)) &&
     decide (condExDeep.siteAt valExArgs3 s.t' [.key "v", .idx 1, .key "y"]
       = some (5, [.num 5]))) = true :=
  (Option.any_eq_true _ _).mp (by decide +kernel)

end Genjax

/-! ## The "MH weight" clause in the PROBABILISTIC semantics

  `GF.regenerateD` (`Model/GfiRegenDist.lean`): every selected Distribution site draws from its
  finite-support distribution, the weight is carried in the linear domain; notation as in the
  section on `mh` on generative-function programs of `Props/C09.lean`. -/
namespace Genjax
open Smc Smc.FinDist

section C04Gfi
variable {K : Type} [Field K] {R : Type} [AddCommGroup R]
variable (e : R → K) (pd : PD K) (P : Prims R) (cfg : Cfg)

/-- Linear-domain restatement of `C04_regenerate_weight` through `regenerateD` (`_partial`:
    Cond-free programs): jointly with the event "the regenerated choices are `x'`", the reported
    weight is `unselMass(x') · unselE t` — the product over the UNSELECTED sites of
    `pm(new parameters, kept value) · e(old score)`, i.e. (old score = -log old mass) the ratio of
    the joint densities divided by the ratio of the densities of the selected choices — and the
    event has probability `selMass(x')` (0 unless `x'` agrees with the old choices off the
    selection).  `Φ` is an arbitrary function of (return value, weight); new arguments `args` may
    differ from the arguments `a` of the old trace.  Missing: programs with Cond. -/
theorem C04_regenerate_weight_linear_partial (hpd : pd.WF) (hsr : cfg.scanRegenDefined = true)
    (g : GF) (hcf : g.condFree = true) (t : Tr R) (a : List Val) (s : Sel) (x x' : CM)
    (args : List Val) (hc : g.Coh P a t) (hcan : g.Canon t) (hx : t.choices = some x)
    (hs' : g.skel = some x'.skel) (Φ : Val → K → K) :
    E (g.regenerateD e pd P cfg t s args) (optK (chW x' Φ))
      = if CM.eqOff s x x' then
          (match g.assessS pd x' s args with
           | none => 0
           | some o => o.1.1 * Φ o.2 (o.1.2 * g.unselE e t s))
        else 0 :=
  regenD_weight_law e pd P cfg hpd hsr g hcf t a s x x' args hc hx
    (skel_of_canon_choices P g a t hcan hc hx) hs' Φ

/-- … and for a coherent old trace `unselE t` IS the reciprocal of the product of the masses of its
    unselected sites (when that product is non-zero): with the theorem above, the weight on the
    event is `unselMass(x') / unselMass(x)` = [π(x')/π(x)] / [selMass(x')/selMass(x)]. -/
theorem C04_unselE_is_reciprocal_partial
    (hinv : ∀ d a v, pd.pm d a v ≠ 0 → e (-(P.lp d a v)) * pd.pm d a v = 1)
    (g : GF) (hcf : g.condFree = true) (args : List Val) (t : Tr R) (x : CM) (s : Sel)
    (hc : g.Coh P args t) (hx : t.choices = some x) (hne : unselMass pd g x s args ≠ 0) :
    g.unselE e t s * unselMass pd g x s args = 1 ∧
    pmassOf (g.assessP pd x args) = selMass pd g x s args * unselMass pd g x s args := by
  obtain ⟨A, B, hAB, hU⟩ := coh_assessS e pd P hinv g hcf args t x s hc hx
  refine ⟨?_, pmassOf_eq_sel_mul_unsel pd g x s args⟩
  unfold unselMass at hne ⊢
  rw [hAB] at hne ⊢
  exact hU hne

end C04Gfi

/-- non-vacuity: in the two-site instance `mhExG` of Proofs/GfiRegenMH.lean, also evaluated in
    Props/C09.lean (`x ~ D(0); y ~ D(x)`, selection `"x"`,
    old choices `{x: 0, y: 1}`) the kernel specification reaches `{x: 3, y: 1}` with proposal mass
    `1/8` and weight `1/2`, and the old trace's `unselE` is `4 = 1/(1/4)` -/
example : ∃ t w, mhExG.generate mhExP Cfg.spec (some (mhExX 0 1)) [.num 0] = some (t, w) ∧
    mhExG.regenW mhExE mhExPD Cfg.spec t (.str "x") (mhExX 3 1) [.num 0]
      = some ((1/8, 1/2), .num 4) ∧
    mhExG.unselE mhExE t (.str "x") = 4 ∧ unselMass mhExPD mhExG (mhExX 0 1) (.str "x") [.num 0] = 1/4 :=
  ⟨_, _, rfl, by decide +kernel, by decide +kernel, by decide +kernel⟩

end Genjax

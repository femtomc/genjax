import GenjaxModel.Model.DistExpr
/-
  C13: the DOCUMENTED construction of every exported genjax distribution — which TensorFlow-Probability
  distribution class it is, and which genjax argument (positional `argN`, keyword `kw:name`) feeds which TFP
  constructor parameter.  `harness/dist_translate.py` regenerates this table from the CURRENT source of
  /repo/src/genjax/distributions.py on every run of the C13 check (it finds the `name = tfp_distribution(..)`
  assignments with `ast`, evaluates the constructor on a valid parameter point and inspects the TFP object) and Lean
  re-checks `implTable = docTable` (theorem `implTable_is_documented`, in a scratch file of that run).

  Reading of an entry together with `DistExpr.specTable`: the spec term of `<name>` takes its parameters `(p 0), (p 1), …`
  in the documented genjax order = positional arguments first, then keywords; the TFP parameter names say what they mean
  (TFP's own semantics of `Gamma(concentration, rate)`, `Bernoulli(logits)` vs `Bernoulli(probs)`, … is trusted):
    beta: concentration1 ← arg0 (exponent of x), concentration0 ← arg1;  gamma: rate ← arg1 (not a scale);
    inverse_gamma / weibull / laplace / half_normal / cauchy / log_normal / student_t: scale ← last argument;
    bernoulli: logits;  flip: probs;  categorical: logits;  geometric / binomial / multinomial / negative_binomial: probs keyword;
    multivariate_normal: a covariance matrix (not a scale or a Cholesky factor).
  Mathlib-free.
-/
namespace Genjax.DistDoc

def docTable : List (String × String × List (String × String)) := [
  ("bernoulli", "Bernoulli", [("logits", "arg0")]),
  ("beta", "Beta", [("concentration0", "arg1"), ("concentration1", "arg0")]),
  ("binomial", "Binomial", [("probs", "kw:probs"), ("total_count", "arg0")]),
  ("categorical", "Categorical", [("logits", "arg0")]),
  ("cauchy", "Cauchy", [("loc", "arg0"), ("scale", "arg1")]),
  ("chi2", "Chi2", [("df", "arg0")]),
  ("dirichlet", "Dirichlet", [("concentration", "arg0")]),
  ("exponential", "Exponential", [("rate", "arg0")]),
  ("flip", "Bernoulli", [("probs", "arg0")]),
  ("gamma", "Gamma", [("concentration", "arg0"), ("rate", "arg1")]),
  ("geometric", "Geometric", [("probs", "kw:probs")]),
  ("half_normal", "HalfNormal", [("scale", "arg0")]),
  ("inverse_gamma", "InverseGamma", [("concentration", "arg0"), ("scale", "arg1")]),
  ("laplace", "Laplace", [("loc", "arg0"), ("scale", "arg1")]),
  ("log_normal", "LogNormal", [("loc", "arg0"), ("scale", "arg1")]),
  ("multinomial", "Multinomial", [("probs", "kw:probs"), ("total_count", "arg0")]),
  ("multivariate_normal", "MultivariateNormalFullCovariance", [("covariance_matrix", "arg1"), ("loc", "arg0")]),
  ("negative_binomial", "NegativeBinomial", [("probs", "kw:probs"), ("total_count", "arg0")]),
  ("normal", "Normal", [("loc", "arg0"), ("scale", "arg1")]),
  ("poisson", "Poisson", [("rate", "arg0")]),
  ("student_t", "StudentT", [("df", "arg0"), ("loc", "arg1"), ("scale", "arg2")]),
  ("uniform", "Uniform", [("high", "arg1"), ("low", "arg0")]),
  ("weibull", "Weibull", [("concentration", "arg0"), ("scale", "arg1")]),
  ("zipf", "Zipf", [("power", "arg0")])
]

/-- every documented distribution has a spec term (and vice versa): same 24 names -/
theorem docTable_names_are_spec_names :
    (docTable.map (·.1)).all (fun n => (DistExpr.specTable.map (·.1)).contains n) = true ∧
    (DistExpr.specTable.map (·.1)).all (fun n => (docTable.map (·.1)).contains n) = true := by decide +kernel

/-- the number of genjax arguments feeding TFP parameters equals the arity of the spec term (vector arguments counted once;
    the spec terms of the four vector distributions flatten them, so they are excluded here) -/
def scalarNames : List String := ["bernoulli", "beta", "binomial", "cauchy", "chi2", "exponential", "flip", "gamma", "geometric",
  "half_normal", "inverse_gamma", "laplace", "log_normal", "negative_binomial", "normal", "poisson", "student_t", "uniform", "weibull", "zipf"]

theorem docTable_arity_matches_spec :
    scalarNames.all (fun n =>
      ((docTable.find? (·.1 == n)).map (·.2.2.length)) == ((DistExpr.specTable.find? (·.1 == n)).map (·.2.1))) = true := by decide +kernel

end Genjax.DistDoc

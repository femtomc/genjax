import GenjaxModel.Model.Sel
import GenjaxModel.Model.SExp
import GenjaxModel.Model.SelIO
import GenjaxModel.Model.Gfi
import GenjaxModel.Model.GfiIO
import GenjaxModel.Proofs.GfiLoops
import GenjaxModel.Proofs.Sel
import GenjaxModel.Props.C16
import GenjaxModel.Proofs.GfiAssessCond
import GenjaxModel.Model.GfiPaths
import GenjaxModel.Proofs.GfiValuesBase
import GenjaxModel.Proofs.GfiValuesFill
import GenjaxModel.Proofs.GfiValuesUpdate
import GenjaxModel.Proofs.GfiValuesView
import GenjaxModel.Proofs.GfiValuesGenerate
import GenjaxModel.Proofs.GfiValuesRegen
import GenjaxModel.Proofs.GfiValuesRoundtrip
import GenjaxModel.Proofs.GfiValuesWeight
import GenjaxModel.Proofs.GfiValuesDraws
import GenjaxModel.Proofs.GfiValues
import GenjaxModel.Model.GfiDist
import GenjaxModel.Proofs.GfiDistMonad
import GenjaxModel.Proofs.GfiLaw
import GenjaxModel.Proofs.GfiDistSupp
import GenjaxModel.Proofs.GfiLawMain
import GenjaxModel.Proofs.GfiGenBase
import GenjaxModel.Proofs.GfiGenLaw
import GenjaxModel.Proofs.GfiGenSum
import GenjaxModel.Proofs.GfiGenSim
import GenjaxModel.Proofs.GfiGenTie
import GenjaxModel.Proofs.GfiGenSupp
import GenjaxModel.Proofs.GfiGenLawCond
import GenjaxModel.Proofs.GfiGenLawCondSum
import GenjaxModel.Props.C01
import GenjaxModel.Props.C02
import GenjaxModel.Props.C03
import GenjaxModel.Proofs.ResampleIntegral
import GenjaxModel.Proofs.ResampleCategorical
import GenjaxModel.Proofs.GfiGather
import GenjaxModel.Props.C12
import GenjaxModel.Model.GfiRegenDist
import GenjaxModel.Proofs.GfiRegenAssess
import GenjaxModel.Proofs.GfiRegenLaw
import GenjaxModel.Proofs.GfiRegenTie
import GenjaxModel.Proofs.GfiRegenMH
import GenjaxModel.Props.C04
import GenjaxModel.Props.C05
import GenjaxModel.Model.ChainMulti
import GenjaxModel.Model.ChainMultiIO
import GenjaxModel.Proofs.ChainMulti
import GenjaxModel.Props.C18
import GenjaxModel.Model.StateSpec
import GenjaxModel.Proofs.StateSpec
import GenjaxModel.Proofs.StateSpecShape
import GenjaxModel.Proofs.StateSpecAsis
import GenjaxModel.Props.C19
import GenjaxModel.Proofs.KalmanMatrix
import GenjaxModel.Proofs.KalmanMatrixReal
import GenjaxModel.Props.C20
import GenjaxModel.Model.SeedCache
import GenjaxModel.Model.SeedCacheIO
import GenjaxModel.Proofs.SeedCache
import GenjaxModel.Props.C06
import GenjaxModel.Model.SeedVec
import GenjaxModel.Model.SeedVecIO
import GenjaxModel.Proofs.SeedVec
import GenjaxModel.Props.C07
import GenjaxModel.Model.Interp
import GenjaxModel.Model.InterpIO
import GenjaxModel.Proofs.Interp
import GenjaxModel.Proofs.LoweringR
import GenjaxModel.Props.C14
import GenjaxModel.Model.McmcKernels
import GenjaxModel.Model.McmcKernelsIO
import GenjaxModel.Proofs.McmcKernels
import GenjaxModel.Props.C09
import GenjaxModel.Model.SmcInit
import GenjaxModel.Proofs.SmcInit
import GenjaxModel.Proofs.SmcInitWeight
import GenjaxModel.Props.C10
import GenjaxModel.Model.AdevProg
import GenjaxModel.Proofs.AdevProg
import GenjaxModel.Model.AdevProgIO
import GenjaxModel.Proofs.AdevProgIO
import GenjaxModel.Props.C11
import GenjaxModel.Model.AdevDet2
import GenjaxModel.Model.AdevDet2IO
import GenjaxModel.Proofs.AdevDet2
import GenjaxModel.Proofs.AdevDet2Main
import GenjaxModel.Proofs.AdevDet2Table
import GenjaxModel.Props.C15
import GenjaxModel.Model.ViElbo
import GenjaxModel.Model.ViElboIO
import GenjaxModel.Proofs.ViMerge
import GenjaxModel.Proofs.ViElbo
import GenjaxModel.Props.C17
import GenjaxModel.Model.VmapRule
import GenjaxModel.Model.VmapRuleNest
import GenjaxModel.Model.VmapRuleIO
import GenjaxModel.Proofs.VmapRule
import GenjaxModel.Proofs.VmapRuleNest
import GenjaxModel.Props.C08
import GenjaxModel.Proofs.DistSpec2
import GenjaxModel.Proofs.DistSpec3
import GenjaxModel.Proofs.DistSpec4
import GenjaxModel.Proofs.DistSpec5
import GenjaxModel.Model.DistExpr
import GenjaxModel.Model.DistExprIO
import GenjaxModel.Model.DistDoc
import GenjaxModel.Proofs.DistExpr
import GenjaxModel.Proofs.DistExprVec
import GenjaxModel.Props.C13
